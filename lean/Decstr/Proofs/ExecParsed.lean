import Decstr.Model.ExecConvert
import Decstr.Proofs.ExecSig
import Decstr.Proofs.ExecComb
import Decstr.Proofs.StreamBuf
import Decstr.Props.C09
/-!
# Proofs.ExecParsed — `decimal_from_parsed`: for a parse result whose ranges lie inside the text and cover digit strings
(`ParsedOK`: what the parsers guarantee), no panic site is reachable in either profile and the bytes are the pure model's.
No condition on the magnitude of the exponent or the number of digits: the allocation test guards the encoders.
-/
namespace Decstr.Proofs.Exec
open Decstr.Model Decstr.Model.Exec Decstr.Spec

/-- `r` is a non-empty (NE) run of ASCII digits inside the text `l` -/
structure DigitsNE (l : List Nat) (r : Range) : Prop where
  lt : r.start < r.stop
  le : r.stop ≤ l.length
  digits : AsciiDigits (slice l r)

/-- what `decimal_from_parsed` needs of a parse result: every range it slices is inside the text, the integer,
    fractional and exponent digit runs are non-empty ASCII digits, a non-empty NaN payload is ASCII digits -/
def ParsedOK : Parsed → Prop
  | .finite f =>
      (match f.sig.point with
       | some pt => DigitsNE f.buf.ascii ⟨f.sig.range.start, pt.start⟩ ∧ DigitsNE f.buf.ascii ⟨pt.stop, f.sig.range.stop⟩
       | none => DigitsNE f.buf.ascii f.sig.range) ∧
      (∀ e, f.exp = some e → DigitsNE f.buf.ascii e.range)
  | .infinity _ => True
  | .nan n => ∀ s, n.payload = some s → s.range.stop > s.range.start → DigitsNE n.buf.ascii s.range

theorem sliceC_eq {site : String} {l : List Nat} {r : Range} (h1 : r.start ≤ r.stop) (h2 : r.stop ≤ l.length) :
    sliceC site l r = .ok (slice l r) := by
  simp [sliceC, h1, h2]

theorem DigitsNE.slice_ne {l : List Nat} {r : Range} (h : DigitsNE l r) : slice l r ≠ [] :=
  slice_ne_nil l r.start r.stop h.lt h.le

theorem DigitsNE.sliceC_eq {site : String} {l : List Nat} {r : Range} (h : DigitsNE l r) : sliceC site l r = .ok (slice l r) :=
  Exec.sliceC_eq (Nat.le_of_lt h.lt) h.le

theorem i32FromAsciiC_eq {c neg : Bool} {ds : List Nat} (hds : ∀ d ∈ ds, 48 ≤ d) (acc : Int) :
    i32FromAsciiC c neg ds acc = .ok (i32FromAscii neg ds acc) := by
  induction ds generalizing acc with
  | nil => rfl
  | cons d ds ih =>
    unfold i32FromAsciiC i32FromAscii
    dsimp only
    refine ok_ite (fun _ => rfl) fun _ => ?_
    rw [subU8_ok (hds d List.mem_cons_self)]
    exact ok_ite (fun _ => rfl) fun _ => ih (fun x hx => hds x (List.mem_cons_of_mem d hx)) _

theorem exponentFromAsciiC_eq {T : Ty} {c neg : Bool} {ds : List Nat} (hds : AsciiDigits ds) (hne : ds ≠ []) :
    exponentFromAsciiC T c neg ds = .ok (T.exponentFromAscii neg ds) := by
  unfold exponentFromAsciiC Ty.exponentFromAscii
  cases hi : T.expIsI32 with
  | true =>
    simp only [if_true]
    rw [i32FromAsciiC_eq fun d hd => (hds d hd).1]
    cases i32FromAscii neg ds 0 <;> rfl
  | false =>
    simp only [Bool.false_eq_true, if_false]
    have hall : ds.all Spec.isDigit = true := by
      rw [List.all_eq_true]
      intro x hx
      have := hds x hx
      simp [Spec.isDigit]; omega
    rw [if_pos ⟨hne, hall⟩]

theorem withPrecisionC_eq {T : Ty} {c : Bool} {d : Nat} (hd : d ≠ 0) (e : Option Int) :
    withPrecisionC T c d e = .ok (T.withPrecision d e) := by
  unfold withPrecisionC
  rw [dbg_pos hd, bind_ok]

/-- an exponent of the format's own range is biased into its exponent field: `encodeCombinationFiniteC_eq`'s contract -/
theorem biased_range {n : Nat} (hn : 0 < n) {q : Int} (hq : (Fmt.mk n).qmin ≤ q ∧ q ≤ (Fmt.mk n).qmax) :
    0 ≤ biasOf (32 * n) (9 * n - 2) + q ∧ biasOf (32 * n) (9 * n - 2) + q < 3 * 2 ^ (2 * n + 4) := by
  rw [biasOf_eq n hn, Int.add_comm]
  have h0 : 0 ≤ q + ((Fmt.mk n).bias : Int) := by
    have := hq.1; unfold Fmt.qmin at this; omega
  exact ⟨h0, by exact_mod_cast (Int.toNat_lt h0).1 (biased_lt n q hq)⟩

/-- `encode_combination_finite` under the format's own contract: an exponent between `qmin` and `qmax` -/
theorem encodeCombinationFiniteC_of_range {r : ExpRep} {c : Bool} {b : Buf} {n : Nat} (hn : 0 < n) (hl : b.len = 4 * n)
    (hr : r.isI32 = true → n ≤ 5) {neg : Bool} {exp : Int} {msd : Nat}
    (hq : (Fmt.mk n).qmin ≤ exp ∧ exp ≤ (Fmt.mk n).qmax) :
    encodeCombinationFiniteC r c b neg exp msd =
      .ok (encodeCombinationFinite b neg (biasOf b.widthBits b.precision + exp).toNat msd) := by
  have hbr := biased_range hn hq
  rw [← Buf.widthBits_of_len hl, ← Buf.precision_of_len hl] at hbr
  exact encodeCombinationFiniteC_eq hn hl hr hbr.1 hbr.2

/-- the finite encoder behind `decimal_from_parsed`, for ANY exponent and ANY number of digits: a refused allocation is
    an error value, a granted one makes both encoders safe -/
theorem encodeFiniteC_eq {T : Ty} {c neg : Bool} {chunks : List (List Nat)} {exp : Int}
    (hne : NoEmpty chunks) (hc : chunks ≠ []) (hds : AsciiDigits chunks.flatten) :
    encodeFiniteC T c neg chunks exp = .ok (encodeFinite T neg chunks.flatten exp) := by
  have hd : 0 < chunks.flatten.length := by
    obtain ⟨ch, rest, rfl⟩ := List.exists_cons_of_ne_nil hc
    have := List.length_pos_iff.2 (hne ch (by simp))
    simp only [List.flatten_cons, List.length_append]; omega
  unfold encodeFiniteC encodeFinite
  rw [withPrecisionC_eq (by omega), bind_ok]
  cases hr : T.withPrecision chunks.flatten.length (some exp) with
  | error e => rfl
  | ok b0 =>
    obtain ⟨n, rfl, hn, hfit, hcapn, -⟩ := Props.C07.C07_alloc_ok hd hr
    obtain ⟨-, hq1, hq2⟩ := (fitsB_iff _ _ _).1 hfit
    dsimp only
    rw [encodeSignificandC_eq hn rfl hne hds, bind_ok,
      encodeCombinationFiniteC_of_range hn (encodeSignificand_len _ _) (expRep_le (Ty.le_five_of_capN hcapn)) ⟨hq1, hq2⟩,
      bind_ok]

theorem fromParsedExpC_eq {T : Ty} {c : Bool} {text : List Nat} {ex : Option PExponent}
    (hex : ∀ e, ex = some e → DigitsNE text e.range) :
    fromParsedExpC T c text ex = .ok (match ex with
      | some e => T.exponentFromAscii e.neg (slice text e.range)
      | none => .ok 0) := by
  cases ex with
  | none => rfl
  | some e =>
    have g := hex e rfl
    simp only [fromParsedExpC]
    rw [g.sliceC_eq, bind_ok, exponentFromAsciiC_eq g.digits g.slice_ne]

theorem fromParsedSigC_eq {T : Ty} {c : Bool} {text : List Nat} {sig : PSignificand} {e0 : Int}
    (hsig : match sig.point with
       | some pt => DigitsNE text ⟨sig.range.start, pt.start⟩ ∧ DigitsNE text ⟨pt.stop, sig.range.stop⟩
       | none => DigitsNE text sig.range) :
    fromParsedSigC T c text sig e0 = .ok (match sig.point with
      | some pt =>
        encodeFinite T sig.neg (slice text ⟨sig.range.start, pt.start⟩ ++ slice text ⟨pt.stop, sig.range.stop⟩)
          (T.lower e0 (slice text ⟨pt.stop, sig.range.stop⟩).length)
      | none => encodeFinite T sig.neg (slice text sig.range) e0) := by
  unfold fromParsedSigC
  cases hpt : sig.point with
  | none =>
    rw [hpt] at hsig
    dsimp only
    rw [hsig.sliceC_eq, bind_ok, encodeFiniteC_eq (.cons hsig.slice_ne .nil) (List.cons_ne_nil _ _)
      (List.flatten_singleton ▸ hsig.digits), List.flatten_singleton]
  | some pt =>
    rw [hpt] at hsig
    obtain ⟨g, k⟩ := hsig
    dsimp only
    rw [g.sliceC_eq, bind_ok, k.sliceC_eq, bind_ok, encodeFiniteC_eq (.cons g.slice_ne (.cons k.slice_ne .nil)) (by simp)
      (by simpa using asciiDigits_append.2 ⟨g.digits, k.digits⟩)]
    simp only [List.flatten_cons, List.flatten_nil, List.append_nil]

theorem fromParsedC_eq {T : Ty} {c : Bool} {p : Parsed} (h : ParsedOK p) : fromParsedC T c p = .ok (fromParsed T p) := by
  have h4 : 0 < 4 * Props.C09.baseN T := Nat.mul_pos (by decide) (Props.C09.baseN_pos T)
  cases p with
  | infinity neg =>
    simp only [fromParsedC, fromParsed, Props.C09.alloc4]
    rw [encodeInfinityC_eq h4, bind_ok]
  | nan n =>
    obtain ⟨tb, signaling, neg, payload⟩ := n
    simp only [fromParsedC, fromParsed]
    cases hf : payload.filter (fun s => decide (s.range.stop > s.range.start)) with
    | none =>
      simp only [Props.C09.alloc4]
      rw [encodeNanC_eq h4, bind_ok]
    | some s =>
      obtain ⟨hs1, hs2⟩ := Option.filter_eq_some_iff.1 hf
      have hd : DigitsNE tb.ascii s.range := h s hs1 (by simpa using hs2)
      dsimp only
      rw [withPrecisionC_eq (Nat.succ_ne_zero _), bind_ok, slice_length _ _ hd.le]
      cases hr : T.withPrecision (s.range.stop - s.range.start + 1) none with
      | error e => rfl
      | ok b0 =>
        obtain ⟨n, rfl, hn, -⟩ := Props.C07.C07_alloc_ok (Nat.succ_pos _) hr
        dsimp only
        rw [hd.sliceC_eq, bind_ok, encodeSignificandC_eq hn rfl (.cons hd.slice_ne .nil)
          (List.flatten_singleton ▸ hd.digits), bind_ok, List.flatten_singleton,
          encodeNanC_eq ((encodeSignificand_len _ _).trans_gt (Nat.mul_pos (by decide) hn)), bind_ok]
  | finite f =>
    obtain ⟨tb, sig, ex⟩ := f
    obtain ⟨hsig, hex⟩ := h
    simp only at hsig hex
    simp only [fromParsedC, fromParsed]
    rw [fromParsedExpC_eq hex, bind_ok]
    cases ex with
    | none => exact fromParsedSigC_eq hsig
    | some e =>
      dsimp only
      cases hE : T.exponentFromAscii e.neg (slice tb.ascii e.range) with
      | error err => rfl
      | ok e0 => exact fromParsedSigC_eq hsig

end Decstr.Proofs.Exec

#print axioms Decstr.Proofs.Exec.fromParsedC_eq
