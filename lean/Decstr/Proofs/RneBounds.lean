import Decstr.Proofs.ToFloat
/-!
# Proofs.RneBounds — `Spec.rneRat` in named steps; the oracle answers `some` below the overflow threshold

`rneRat_eq` names the steps of `Spec.rneRat`: the binade exponent `e2Of` (shown to be `⌊log2 (n/d)⌋`), the scaling to the
quantum exponent, then rounding (`Rne.rnd`), assembling and the overflow test (`rneStep`).  From it the oracle answers `some`
whenever `n/d < 2^emax`, which with Proofs/ToFloat gives unconditional `Some` results of `to_f32` / `to_f64` for decimals that
are small enough (in particular every finite 32-bit decimal converts to `f64`).  Core Lean only, like Props/C13, which rests
on the last of these.
-/
namespace Decstr.Proofs
open Decstr.Model Decstr.Spec

/-- `⌊log2 (n/d)⌋` as `rneRat` computes it -/
def e2Of (n d : Nat) : Int :=
  let e0 : Int := (ilog2 n : Int) - ilog2 d
  let ge (e : Int) : Bool := if e ≥ 0 then n ≥ d * 2 ^ e.toNat else n * 2 ^ (-e).toNat ≥ d
  if ge e0 then e0 else e0 - 1

/-- `a/d` rounded to the nearest integer, ties to even (the rounding step of `Spec.rneRat`) -/
def Rne.rnd (a d : Nat) : Nat :=
  let m := a / d; let r := a % d
  if 2 * r > d || (2 * r = d && m % 2 = 1) then m + 1 else m

/-- the last two steps of `rneRat`: round `a/d'`, assemble the pattern in binade `fld`, test for overflow -/
def rneStep (B : BinFmt) (fld a d' : Nat) : Option Nat :=
  let bits := fld * 2 ^ (B.prec - 1) + Rne.rnd a d'
  if bits ≥ B.infBits then none else some bits

/-- `rneRat` with its steps named: the exponent `e` of the binade rounded in (`e2Of`, or `emin` below the normal range), the
    scaling to the quantum exponent `q` (of the numerator for `q < 0`, of the denominator for `q ≥ 0`: one of the two
    powers is `2^0`), then `rneStep` in binade `e − emin` -/
theorem rneRat_eq (B : BinFmt) (n d : Nat) :
    rneRat B n d =
      let emin : Int := 1 - (2 ^ (B.ebits - 1) - 1)
      let e : Int := max (e2Of n d) emin
      let q : Int := e - (B.prec - 1)
      rneStep B (e - emin).toNat (n * 2 ^ (-q).toNat) (d * 2 ^ q.toNat) := by
  unfold rneRat
  extract_lets ebias emin e0 ge e2 q field emin' e' q'
  have hf : e' - emin' = field := by
    show _ = max e2 emin - (↑B.prec - 1) + (↑B.prec - 1) - emin
    rw [Int.sub_add_cancel]; rfl
  rw [hf]
  by_cases h : q ≥ 0
  · rw [if_pos h, show (-q').toNat = 0 from Int.toNat_eq_zero.mpr (Int.neg_nonpos_of_nonneg h), Nat.pow_zero, Nat.mul_one]; rfl
  · rw [if_neg h, show q'.toNat = 0 from Int.toNat_eq_zero.mpr (Int.le_of_not_le h), Nat.pow_zero, Nat.mul_one]; rfl

/-! ## The rounding step `Rne.rnd`: nearest integer, ties to even -/

theorem Rne.rnd_cases (a d : Nat) :
    (Rne.rnd a d = a / d ∧ (2 * (a % d) < d ∨ (2 * (a % d) = d ∧ (a / d) % 2 = 0))) ∨
    (Rne.rnd a d = a / d + 1 ∧ (2 * (a % d) > d ∨ (2 * (a % d) = d ∧ (a / d) % 2 = 1))) := by
  unfold Rne.rnd
  simp only
  split
  next h =>
    simp only [Bool.or_eq_true, Bool.and_eq_true, decide_eq_true_eq] at h
    exact Or.inr ⟨rfl, h⟩
  next h =>
    simp only [Bool.or_eq_true, Bool.and_eq_true, decide_eq_true_eq] at h
    exact Or.inl ⟨rfl, by omega⟩

theorem Rne.rnd_bounds (a d : Nat) : a / d ≤ Rne.rnd a d ∧ Rne.rnd a d ≤ a / d + 1 := by
  rcases Rne.rnd_cases a d with ⟨h, -⟩ | ⟨h, -⟩ <;> omega

/-- the rounding depends on the ratio only -/
theorem Rne.rnd_scale (a d k : Nat) (hk : 0 < k) : Rne.rnd (a * k) (d * k) = Rne.rnd a d := by
  unfold Rne.rnd
  simp only [Nat.mul_div_mul_right _ _ hk, Nat.mul_mod_mul_right, ← Nat.mul_assoc, gt_iff_lt, Nat.mul_lt_mul_right hk,
    Nat.mul_left_inj (Nat.ne_of_gt hk)]

/-- `rnd a d = m` is within half a unit of `a/d`, and a tie is only ever resolved to an even `m` -/
theorem Rne.rnd_spec (a d : Nat) (hd : 0 < d) :
    2 * (Rne.rnd a d * d) ≤ 2 * a + d ∧ 2 * a ≤ 2 * (Rne.rnd a d * d) + d ∧
    (2 * (Rne.rnd a d * d) = 2 * a + d → Rne.rnd a d % 2 = 0) ∧
    (2 * a = 2 * (Rne.rnd a d * d) + d → Rne.rnd a d % 2 = 0) := by
  have h0 : a = a / d * d + a % d := by rw [Nat.mul_comm]; exact (Nat.div_add_mod a d).symm
  have hr : a % d < d := Nat.mod_lt _ hd
  have hc := Rne.rnd_cases a d
  generalize Rne.rnd a d = m at hc ⊢
  generalize a / d = m0 at h0 hc
  generalize a % d = r at h0 hr hc
  rcases hc with ⟨rfl, hc⟩ | ⟨rfl, hc⟩
  · generalize m * d = X at h0 ⊢
    omega
  · rw [Nat.add_mul, Nat.one_mul]
    generalize m0 * d = X at h0 ⊢
    omega

theorem Rne.le_rnd_iff {a d M : Nat} (hd : 0 < d) (hM : M % 2 = 0) :
    M ≤ Rne.rnd a d ↔ 2 * (M * d) ≤ 2 * a + d := by
  obtain ⟨s1, s2, -, s4⟩ := Rne.rnd_spec a d hd
  generalize Rne.rnd a d = m at s1 s2 s4 ⊢
  refine ⟨fun h => ?_, fun h => Nat.le_of_not_lt fun hlt => ?_⟩
  · exact Nat.le_trans (Nat.mul_le_mul_left 2 (Nat.mul_le_mul_right d h)) s1
  · -- `2(m + 1)d ≤ 2Md ≤ 2a + d ≤ 2md + 2d`: equalities, so a tie at `m = M − 1`, which is odd
    have h1 := Nat.mul_le_mul_right d (show m + 1 ≤ M from hlt)
    rw [Nat.succ_mul] at h1
    have h2 : m + 1 = M := Nat.eq_of_mul_eq_mul_right hd (by rw [Nat.succ_mul]; omega)
    have := s4 (by omega)
    omega

theorem Rne.rnd_eq_zero {a d : Nat} (h : 2 * a ≤ d) (ha : 0 < a) : Rne.rnd a d = 0 := by
  have hlt : a < d := by omega
  rcases Rne.rnd_cases a d with ⟨h0, -⟩ | ⟨-, h1⟩
  · rw [h0, Nat.div_eq_of_lt hlt]
  · rw [Nat.mod_eq_of_lt hlt, Nat.div_eq_of_lt hlt] at h1
    omega

/-! ## Comparing `n/d` with `2^k`, `k` an integer, without fractions -/

/-- whatever depends on the ratio only (is unchanged when both arguments are scaled by a common power of two) sees
    of `n·2^x / (d·2^y)` the difference `y − x` only -/
theorem scale_invariant {α : Sort _} (F : Nat → Nat → α) (hF : ∀ a b s : Nat, F (a * 2 ^ s) (b * 2 ^ s) = F a b) (n d : Nat)
    {x y x' y' : Nat} (hk : (y : Int) - x = (y' : Int) - x') :
    F (n * 2 ^ x) (d * 2 ^ y) = F (n * 2 ^ x') (d * 2 ^ y') := by
  have key : ∀ x y s : Nat, F (n * 2 ^ (x + s)) (d * 2 ^ (y + s)) = F (n * 2 ^ x) (d * 2 ^ y) := fun x y s => by
    rw [Nat.pow_add, Nat.pow_add, ← Nat.mul_assoc, ← Nat.mul_assoc]; exact hF _ _ s
  by_cases h : x ≤ x'
  · obtain ⟨s, rfl⟩ := Nat.exists_eq_add_of_le h
    obtain rfl : y' = y + s := by omega
    exact (key x y s).symm
  · obtain ⟨s, rfl⟩ := Nat.exists_eq_add_of_le (Nat.le_of_not_le h)
    obtain rfl : y = y' + s := by omega
    exact key x' y' s

/-- `n/d < 2^k` -/
def LtPow (n d : Nat) (k : Int) : Prop := n * 2 ^ (-k).toNat < d * 2 ^ k.toNat

theorem ltPow_iff {n d : Nat} {k : Int} (x y : Nat) (h : (y : Int) - x = k) :
    LtPow n d k ↔ n * 2 ^ x < d * 2 ^ y :=
  Iff.of_eq (scale_invariant (· < ·) (fun _ _ s => propext (Nat.mul_lt_mul_right (Nat.two_pow_pos s))) n d (by omega))

/-- a shift written as the difference of its two parts, one of which is 0 -/
theorem toNat_add_sub (q : Int) (p : Nat) : ((q.toNat + p : Nat) : Int) - (-q).toNat = q + p := by
  rw [Int.natCast_add, Int.add_comm, Int.add_sub_assoc, Int.toNat_sub_toNat_neg, Int.add_comm]

theorem ltPow_mono {n d : Nat} {k k' : Int} (h : LtPow n d k) (hk : k ≤ k') : LtPow n d k' := by
  obtain ⟨s, rfl⟩ := Int.le.dest hk
  rw [ltPow_iff (-k).toNat (k.toNat + s) (toNat_add_sub k s)]
  exact Nat.lt_of_lt_of_le h (Nat.mul_le_mul_left d (Nat.pow_le_pow_right (by decide) (Nat.le_add_right _ s)))

/-! ## `e2Of` is `⌊log2 (n/d)⌋` -/

theorem ge_iff_not_ltPow (n d : Nat) (e : Int) :
    (if e ≥ 0 then decide (n ≥ d * 2 ^ e.toNat) else decide (n * 2 ^ (-e).toNat ≥ d)) = true ↔ ¬ LtPow n d e := by
  by_cases h : e ≥ 0
  · have h0 : (-e).toNat = 0 := by omega
    simp [LtPow, h, h0]
  · have h0 : e.toNat = 0 := by omega
    simp [LtPow, h, h0]

theorem e2Of_spec (n d : Nat) (hn : 0 < n) (hd : 0 < d) : ¬ LtPow n d (e2Of n d) ∧ LtPow n d (e2Of n d + 1) := by
  have hn1 : 2 ^ n.log2 ≤ n := Nat.log2_self_le (by omega)
  have hn2 : n < 2 ^ (n.log2 + 1) := Nat.lt_log2_self
  have hd1 : 2 ^ d.log2 ≤ d := Nat.log2_self_le (by omega)
  have hd2 : d < 2 ^ (d.log2 + 1) := Nat.lt_log2_self
  have f1 : LtPow n d ((n.log2 : Int) - d.log2 + 1) := by
    rw [ltPow_iff d.log2 (n.log2 + 1) (by omega)]
    have := Nat.mul_lt_mul_of_lt_of_le hn2 hd1 hd
    rwa [Nat.mul_comm (2 ^ (n.log2 + 1))] at this
  have f2 : ¬ LtPow n d ((n.log2 : Int) - d.log2 - 1) := by
    rw [ltPow_iff (d.log2 + 1) n.log2 (by omega)]
    have := Nat.mul_le_mul (Nat.le_of_lt hd2) hn1
    rw [Nat.mul_comm (2 ^ (d.log2 + 1))] at this
    omega
  unfold e2Of ilog2
  simp only
  by_cases hg : LtPow n d ((n.log2 : Int) - d.log2)
  · rw [if_neg (mt (ge_iff_not_ltPow n d _).mp (not_not_intro hg))]; exact ⟨f2, by rwa [Int.sub_add_cancel]⟩
  · rw [if_pos ((ge_iff_not_ltPow n d _).mpr hg)]; exact ⟨hg, f1⟩

/-- the floor-log2 as a Galois connection -/
theorem e2Of_lt_iff (n d : Nat) (hn : 0 < n) (hd : 0 < d) (k : Int) : e2Of n d < k ↔ LtPow n d k := by
  obtain ⟨h1, h2⟩ := e2Of_spec n d hn hd
  exact ⟨fun h => ltPow_mono h2 (by omega), fun h => Int.lt_of_not_ge fun hk => h1 (ltPow_mono h hk)⟩

/-! ## The rounding step stays below the infinity pattern -/

theorem rneStep_some (B : BinFmt) (hp : 1 ≤ B.prec) {fld a d' : Nat} (ha : a < d' * 2 ^ B.prec)
    (hF : fld + 4 ≤ 2 ^ B.ebits) : ∃ m, rneStep B fld a d' = some m := by
  refine ⟨_, if_neg ?_⟩
  have hm := (Rne.rnd_bounds a d').2
  have hm0 : a / d' < 2 ^ B.prec := Nat.div_lt_of_lt_mul ha
  rw [← Nat.two_pow_pred_mul_two hp] at hm0
  have h2 := Nat.mul_le_mul_right (2 ^ (B.prec - 1)) (show fld + 3 ≤ 2 ^ B.ebits - 1 by omega)
  have hW : 0 < 2 ^ (B.prec - 1) := Nat.two_pow_pos _
  rw [Nat.add_mul] at h2
  unfold BinFmt.infBits
  omega

/-- the oracle answers `some` for every positive rational below `2^emax` -/
theorem rneRat_some (B : BinFmt) (hp : 1 ≤ B.prec) (hb : 2 ≤ B.ebits) (n d : Nat) (hn : 0 < n) (hd : 0 < d)
    (h : n < d * 2 ^ (2 ^ (B.ebits - 1) - 1)) : ∃ m, rneRat B n d = some m := by
  have he2 : e2Of n d < ((2 ^ (B.ebits - 1) - 1 : Nat) : Int) :=
    (e2Of_lt_iff n d hn hd _).mpr ((ltPow_iff 0 (2 ^ (B.ebits - 1) - 1) (Int.sub_zero _)).mpr (by
      rw [Nat.pow_zero, Nat.mul_one]; exact h))
  clear h
  rw [rneRat_eq]
  extract_lets emin e q
  refine rneStep_some B hp ?_ ?_
  · -- `n/d < 2^(q + prec) = 2^(e + 1)`, as `e2 ≤ e`; the two scalings differ by `q⁺ − q⁻ = q`
    rw [Nat.mul_assoc, ← Nat.pow_add, ← ltPow_iff (-q).toNat (q.toNat + B.prec) (k := e + 1)
        ((toNat_add_sub q B.prec).trans (by show e - ((B.prec : Int) - 1) + B.prec = _; omega)),
      ← e2Of_lt_iff n d hn hd]
    exact Int.lt_add_one_of_le (Int.le_max_left _ _)
  · -- `e2 ≤ emax − 1 = 2^(ebits−1) − 2` (`he2`) and `emin = 2 − 2^(ebits−1)`: `e − emin ≤ 2·2^(ebits−1) − 4`
    have ht : 2 ≤ 2 ^ (B.ebits - 1) := Nat.one_lt_two_pow (by omega)
    have hemin : emin = 2 - ((2 ^ (B.ebits - 1) : Nat) : Int) := by show (1 : Int) - (2 ^ (B.ebits - 1) - 1) = _; push_cast; omega
    rw [← Nat.two_pow_pred_mul_two (Nat.lt_of_lt_of_le Nat.two_pos hb)]
    show (max (e2Of n d) emin - emin).toNat + 4 ≤ _
    omega

theorem rneDec_eq_scaled (B : BinFmt) (c : Nat) (e : Int) :
    rneDec B c e = rneRat B (c * 10 ^ e.toNat) (10 ^ (-e).toNat) := by
  unfold rneDec
  by_cases h : e ≥ 0
  · rw [if_pos h, Int.toNat_eq_zero.mpr (Int.neg_nonpos_of_nonneg h), Nat.pow_zero]
  · rw [if_neg h, Int.toNat_eq_zero.mpr (Int.le_of_not_le h), Nat.pow_zero, Nat.mul_one]

/-- `N ≤ 400` keeps the exponent below the cut-off above which `rneDecSafe` answers `none` without rounding -/
theorem rneDecSafe_some (B : BinFmt) (hp : 1 ≤ B.prec) (hb : 2 ≤ B.ebits) (N : Nat) (hN : N ≤ 400)
    (hpow : 10 ^ N ≤ 2 ^ (2 ^ (B.ebits - 1) - 1)) (c k : Nat) (e : Int) (hc : c < 10 ^ k) (hke : (k : Int) + e ≤ N) :
    ∃ m, rneDecSafe B c e = some m := by
  unfold rneDecSafe
  by_cases h0 : c = 0
  · rw [if_pos h0]; exact ⟨_, rfl⟩
  rw [if_neg h0, if_neg (by omega)]
  split
  · exact ⟨_, rfl⟩
  rw [rneDec_eq_scaled]
  refine rneRat_some B hp hb _ _ (Nat.mul_pos (Nat.pos_of_ne_zero h0) (Nat.pow_pos (by decide))) (Nat.pow_pos (by decide)) ?_
  -- `c·10^e⁺ < 10^(k + e⁺) ≤ 10^(e⁻ + N) ≤ 10^e⁻ · 2^emax`, where `e = e⁺ − e⁻`
  have h1 : c * 10 ^ e.toNat < 10 ^ k * 10 ^ e.toNat := (Nat.mul_lt_mul_right (Nat.pow_pos (by decide))).mpr hc
  have h2 : 10 ^ (k + e.toNat) ≤ 10 ^ ((-e).toNat + N) := Nat.pow_le_pow_right (by decide) (by
    have he := Int.toNat_sub_toNat_neg e
    generalize e.toNat = x at he ⊢
    generalize (-e).toNat = y at he ⊢
    omega)
  have h3 := Nat.mul_le_mul_left (10 ^ (-e).toNat) hpow
  rw [Nat.pow_add, Nat.pow_add] at h2
  exact Nat.lt_of_lt_of_le h1 (Nat.le_trans h2 h3)

set_option exponentiation.threshold 2000 in
theorem pow_bound64 : 10 ^ 307 ≤ 2 ^ (2 ^ (binary64.ebits - 1) - 1) := by decide +kernel
theorem pow_bound32 : 10 ^ 38 ≤ 2 ^ (2 ^ (binary32.ebits - 1) - 1) := by decide

/-- `10^N ≤ 2^emax`, so `c·10^e < 10^N` is below the largest finite float -/
theorem toFloatFinite_total (B : BinFmt) (hB : B = binary32 ∨ B = binary64) (N : Nat) (hN : N ≤ 400)
    (hpow : 10 ^ N ≤ 2 ^ (2 ^ (B.ebits - 1) - 1)) (neg : Bool) (digits : List Nat) (hds : AsciiDigits digits) (e : Int)
    (hsig : (digits.dropWhile (· == 48)).length ≤ 17) (he : -99999 ≤ e)
    (hv : ((digits.dropWhile (· == 48)).length : Int) + e ≤ N) :
    ∃ m, rneDecSafe B (valOf digits) e = some m ∧
      toFloatFinite B neg digits e = some (sgnBits B neg + m) := by
  have hlt : valOf digits < 10 ^ (digits.dropWhile (· == 48)).length := by
    rw [← valOf_dropWhile_zero]; exact valOf_lt (hds.dropWhile _)
  obtain ⟨m, hm⟩ := rneDecSafe_some B (pos_of_std hB).1 (bounds_of_std hB).2.1 N hN hpow _ _ e hlt hv
  exact ⟨m, hm, toFloatFinite_some_strong B hB neg digits hds e hsig ⟨he, by omega⟩ m hm⟩

/-- `to_f64`: `N = 307`, `10^307 < f64::MAX` -/
theorem toFloatFinite_total64 (neg : Bool) (digits : List Nat) (hds : AsciiDigits digits) (e : Int)
    (hsig : (digits.dropWhile (· == 48)).length ≤ 17) (he : -99999 ≤ e)
    (hv : ((digits.dropWhile (· == 48)).length : Int) + e ≤ 307) :
    ∃ m, rneDecSafe binary64 (valOf digits) e = some m ∧
      toFloatFinite binary64 neg digits e = some (sgnBits binary64 neg + m) :=
  toFloatFinite_total binary64 (Or.inr rfl) 307 (by decide) pow_bound64 neg digits hds e hsig he hv

/-- `to_f32`: `N = 38`, `10^38 < f32::MAX` -/
theorem toFloatFinite_total32 (neg : Bool) (digits : List Nat) (hds : AsciiDigits digits) (e : Int)
    (hsig : (digits.dropWhile (· == 48)).length ≤ 17) (he : -99999 ≤ e)
    (hv : ((digits.dropWhile (· == 48)).length : Int) + e ≤ 38) :
    ∃ m, rneDecSafe binary32 (valOf digits) e = some m ∧
      toFloatFinite binary32 neg digits e = some ((if neg then binary32.signMask else 0) + m) :=
  toFloatFinite_total binary32 (Or.inl rfl) 38 (by decide) pow_bound32 neg digits hds e hsig he hv

/-- the digit-level core of `C13_b32_total`: every finite 32-bit decimal (7 digits, exponent −101 … 90) converts
    to `f64` -/
theorem toFloatFinite_b32_f64 (neg : Bool) (digits : List Nat) (hds : AsciiDigits digits) (hlen : digits.length = 7)
    (e : Int) (he : -101 ≤ e ∧ e ≤ 90) :
    ∃ bits, toFloatFinite binary64 neg digits e = some bits := by
  have hl : (digits.dropWhile (· == 48)).length ≤ 7 := by
    rw [← hlen]; exact (List.dropWhile_sublist _).length_le
  obtain ⟨m, _, h⟩ := toFloatFinite_total64 neg digits hds e (by omega) (by omega) (by omega)
  exact ⟨_, h⟩

/-- instance: the largest 32-bit decimal `9999999e90` -/
example : ∃ bits, toFloatFinite binary64 false [57, 57, 57, 57, 57, 57, 57] 90 = some bits :=
  toFloatFinite_b32_f64 false _ (by intro d hd; simp at hd; omega) rfl 90 (by decide)

end Decstr.Proofs

#print axioms Decstr.Proofs.rneRat_eq
#print axioms Decstr.Proofs.rneRat_some
#print axioms Decstr.Proofs.rneDecSafe_some
#print axioms Decstr.Proofs.toFloatFinite_total64
#print axioms Decstr.Proofs.toFloatFinite_total32
#print axioms Decstr.Proofs.toFloatFinite_b32_f64
