import Decstr.Proofs.JudgeLemmas
import Decstr.Proofs.Grammar
import Decstr.Proofs.Decode
import Decstr.Proofs.Format
import Decstr.Proofs.Print
import Decstr.Props.C02
import Decstr.Props.C08
/-!
# Proofs.JudgeText — what the oracle reads off printed text

The first token of `toText` is the sign and the category of the datum (for `judgeClassify`).  That the text of a finite
value starts with a digit is read off the grammar: `fmtFinite_spec` lets it parse with a `-` put in front, and after a
sign a numeral has a digit (`head_digit_of_parse`).
-/
namespace Decstr.Proofs.Judge
open Decstr.Model Decstr.Spec Decstr.Props

theorem head_digit_of_parse {body : List Nat} {num : Numeral} (h : parse (45 :: body) = some num)
    {s : Bool} {c : Nat} {q : Int} (hd : num.datum = .fin s c q) :
    ∃ d rest, body = d :: rest ∧ isDigit d = true := by
  obtain ⟨sg, so, d, rest, ht, hs, hdig⟩ := finite_text h hd
  -- the text starts with `-`: that is the sign, and the digit follows it
  cases hs with
  | none => injection ht with h1 _; subst h1; cases hdig
  | plus => injection ht with h1 _; cases h1
  | minus => injection ht with _ h2; exact ⟨d, rest, h2, hdig⟩

theorem firstTok_digit (neg : Bool) (c : Nat) (rest : List Nat) (hc : isDigit c = true) :
    firstTok (signText neg ++ c :: rest) = (neg, "d") := by
  have hc' : 48 ≤ c ∧ c ≤ 57 := by simpa [isDigit] using hc
  have : ∀ c < 58, 48 ≤ c → c = 48 ∨ c = 49 ∨ c = 50 ∨ c = 51 ∨ c = 52 ∨ c = 53 ∨ c = 54 ∨ c = 55 ∨ c = 56 ∨ c = 57 := by
    decide +kernel
  rcases this c (Nat.lt_succ_of_le hc'.2) hc'.1 with rfl | rfl | rfl | rfl | rfl | rfl | rfl | rfl | rfl | rfl <;>
    cases neg <;> rfl

theorem specCls_eq (bytes : List Nat) : specCls bytes = C08.clsOfDatum (decode ⟨bytes.length / 4⟩ (ofLeBytes bytes)) := by
  unfold specCls
  cases decode ⟨bytes.length / 4⟩ (ofLeBytes bytes) <;> rfl

def tokOfDatum : Datum → String
  | .fin _ _ _ => "d"
  | .inf _ => "inf"
  | .nan _ g _ => if g then "snan" else "nan"

theorem judgeClassify_datum {bytes : List Nat} {d : Datum} (hd : decode ⟨bytes.length / 4⟩ (ofLeBytes bytes) = d) :
    judgeClassify bytes (C08.clsOfDatum d) (C08.clsOfDatum d).neg (tokOfDatum d) = [] := by
  unfold judgeClassify
  rw [specCls_eq, hd]
  cases d with
  | fin s c e => simp [C08.clsOfDatum, chk, tokOfDatum]
  | inf s => simp [C08.clsOfDatum, chk, tokOfDatum]
  | nan s g p => cases g <;> simp [C08.clsOfDatum, chk, tokOfDatum]

theorem firstTok_toText (T : Ty) (b : Buf) (n : Nat) (hwf : WF b n) (hT : C02.Holds T n) :
    firstTok (toText T b) = ((C08.clsOfDatum (decode ⟨n⟩ b.bits)).neg, tokOfDatum (decode ⟨n⟩ b.bits)) := by
  rcases hwf.classes with ⟨hfin, hd⟩ | ⟨hfin, hinf, hd⟩ | ⟨hfin, hinf, hq, hd⟩ <;> rw [hd]
  · rw [toText_finite T hwf hfin]
    obtain ⟨num, h1, h2, _⟩ := fmtFinite_spec T n _ _ (digitsOK hwf) (unbiasedExponent b).1
      (exponent_small T hwf hT hfin) true
    have h1' : parse (45 :: fmtFinite T (9 * n - 2) ((unbiasedExponent b).2 + 48) (decodeDeclets b) (unbiasedExponent b).1)
        = some num := by simpa [signText] using h1
    obtain ⟨c, rest, hbody, hc⟩ := head_digit_of_parse h1' h2
    rw [hbody, firstTok_digit _ c rest hc]
    rfl
  · rw [toText_infinite T hfin hinf]
    cases isSignNegative b <;> rfl
  · rw [toText_nan T hfin hinf, hq]
    cases isSignNegative b <;> cases isSignalingNan b <;> rfl

theorem digits10_eq (v : Nat) : digits10 v = (natDigits v).length := by simp [digits10, natDigits]

theorem stripped_length_le {ds : List Nat} (hds : AsciiDigits ds) :
    (ds.dropWhile (· == 48)).length ≤ sigDigits (valOf ds) := by
  rw [stripped_eq_sigStr hds, sigStr, sigDigits]
  split
  · exact Nat.le_refl _
  · rw [digits10_eq]; exact Nat.le_refl _

end Decstr.Proofs.Judge

#print axioms Decstr.Proofs.Judge.firstTok_toText
#print axioms Decstr.Proofs.Judge.judgeClassify_datum
#print axioms Decstr.Proofs.Judge.stripped_length_le
