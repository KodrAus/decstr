import Decstr.Proofs.Basic
/-!
# Proofs.Widths — width selection (property C07; used by C04, C17)

`Spec.need d q` is the least width whose format holds `d` digits and the exponent `q`, used everywhere as `need_le_iff`: a
width suffices iff it is at least `need`.  Both width functions of `buf.rs` are a five-row table followed by a closed form:
a row is the proposition `need … ≤ k`, so up to 160 bits they return `32 * need`; the closed forms give `need` or one
32-bit step above.  The `i32` types compute the width from the saturated exponent, which changes nothing up to `32·13`
bits and stays sufficient beyond.
-/
namespace Decstr.Proofs
open Decstr.Model Decstr.Spec

/-! ## `fitsB` as arithmetic

Three readings: `fitsB_iff` keeps `p`, `qmin`, `qmax`; `fitsB_none` / `fitsB_some` spell them out in `n` and `pw n` for every
`n`, with truncated subtractions; `fitsB_some_pos` is the same for `n ≥ 1` in plain integer arithmetic (what `omega` wants). -/

/-- `2^(2n+3)`: `emax n = 3 * pw n` -/
def pw (n : Nat) : Nat := 2 ^ (2 * n + 3)

theorem pw_succ (n : Nat) : pw (n + 1) = 4 * pw n := by
  rw [pw, show 2 * (n + 1) + 3 = 2 * n + 3 + 2 from rfl, Nat.pow_add, Nat.mul_comm]; rfl

theorem pw_pos (n : Nat) : 0 < pw n := Nat.pow_pos (by decide)

theorem pw_mono {m n : Nat} (h : m ≤ n) : pw m ≤ pw n :=
  Nat.pow_le_pow_right (by decide) (by omega)

/-- very weak, but linear, and enough for every estimate below -/
theorem pw_ge (n : Nat) : 16 * n + 8 ≤ pw n := by
  induction n with
  | zero => decide
  | succ k ih => rw [pw_succ]; omega

theorem fitsB_iff (f : Fmt) (d : Nat) (q : Int) : f.fitsB d (some q) = true ↔ d ≤ f.p ∧ f.qmin ≤ q ∧ q ≤ f.qmax := by
  simp only [Fmt.fitsB, Bool.and_eq_true, decide_eq_true_eq]

theorem fitsB_none (n d : Nat) : (Fmt.mk n).fitsB d none = true ↔ d ≤ 9 * n - 2 := by
  simp only [Fmt.fitsB, Bool.and_true, decide_eq_true_eq]
  simp only [Fmt.p]

theorem fitsB_some (n d : Nat) (e : Int) :
    (Fmt.mk n).fitsB d (some e) = true ↔
      d ≤ 9 * n - 2 ∧ -((3 * pw n + (9 * n - 2) - 2 : Nat) : Int) ≤ e ∧
        e ≤ ((3 * pw n : Nat) : Int) - ((9 * n - 2 : Nat) : Int) + 1 := by
  simp only [Fmt.fitsB, Bool.and_eq_true, decide_eq_true_eq]
  simp only [Fmt.p, Fmt.qmin, Fmt.qmax, Fmt.bias, Fmt.emax, pw]

theorem fitsB_some_pos (n d : Nat) (e : Int) (hn : 0 < n) :
    (Fmt.mk n).fitsB d (some e) = true ↔
      (d : Int) ≤ 9 * n - 2 ∧ -(3 * (pw n : Int) + 9 * n - 4) ≤ e ∧ e ≤ 3 * (pw n : Int) - 9 * n + 3 := by
  rw [fitsB_some]
  have := pw_pos n
  omega

theorem fitsB_some_split (n d : Nat) (e : Int) (hn : 0 < n) :
    (Fmt.mk n).fitsB d (some e) = true ↔
      (Fmt.mk n).fitsB d none = true ∧ (Fmt.mk n).fitsB 1 (some e) = true := by
  rw [fitsB_some, fitsB_some, fitsB_none]
  constructor
  · rintro ⟨h1, h2, h3⟩; exact ⟨h1, by omega, h2, h3⟩
  · rintro ⟨h1, _, h2, h3⟩; exact ⟨h1, h2, h3⟩

/-! ## `need` is the least width that fits: `fitsB` is monotone in the width and the search has fuel enough -/

theorem fitsB_succ (n d : Nat) (q : Option Int) (hn : 0 < n) (h : (Fmt.mk n).fitsB d q = true) :
    (Fmt.mk (n + 1)).fitsB d q = true := by
  cases q with
  | none => rw [fitsB_none] at *; omega
  | some e =>
    rw [fitsB_some_pos _ _ _ hn] at h
    rw [fitsB_some_pos _ _ _ n.succ_pos, pw_succ]
    have := pw_pos n
    omega

theorem fits_mono (m n d : Nat) (q : Option Int) (hm : 0 < m) (hmn : m ≤ n)
    (h : (Fmt.mk m).fitsB d q = true) : (Fmt.mk n).fitsB d q = true := by
  induction hmn with
  | refl => exact h
  | @step k hk ih => exact fitsB_succ k d q (Nat.lt_of_lt_of_le hm hk) ih

theorem fitsB_mono_digits (n d d' : Nat) (q : Option Int) (h : d ≤ d') (h1 : (Fmt.mk n).fitsB d' q = true) :
    (Fmt.mk n).fitsB d q = true := by
  cases q with
  | none => rw [fitsB_none] at h1 ⊢; exact Nat.le_trans h h1
  | some e => rw [fitsB_iff] at h1 ⊢; exact ⟨Nat.le_trans h h1.1, h1.2⟩

theorem needFrom_spec (d : Nat) (q : Option Int) (fuel n : Nat)
    (hex : ∃ k, n ≤ k ∧ k < n + fuel ∧ (Fmt.mk k).fitsB d q = true) :
    n ≤ needFrom d q fuel n ∧ (Fmt.mk (needFrom d q fuel n)).fitsB d q = true ∧
      ∀ m, n ≤ m → m < needFrom d q fuel n → (Fmt.mk m).fitsB d q = false := by
  induction fuel generalizing n with
  | zero => obtain ⟨k, h1, h2, _⟩ := hex; omega
  | succ f ih =>
    unfold needFrom
    by_cases hn : (Fmt.mk n).fitsB d q = true
    · rw [if_pos hn]; exact ⟨Nat.le_refl _, hn, fun m h1 h2 => absurd h2 (Nat.not_lt.2 h1)⟩
    · rw [if_neg hn]
      obtain ⟨k, h1, h2, h3⟩ := hex
      have hk : k ≠ n := fun h => hn (h ▸ h3)
      obtain ⟨a, b, c⟩ := ih (n + 1) ⟨k, Nat.lt_of_le_of_ne h1 (Ne.symm hk), by omega, h3⟩
      refine ⟨Nat.le_of_succ_le a, b, fun m hm1 hm2 => ?_⟩
      by_cases hmn : m = n
      · subst hmn; simpa using hn
      · exact c m (Nat.lt_of_le_of_ne hm1 (Ne.symm hmn)) hm2

/-- the fuel of `need` is enough: width `d + |q| + 1` always fits -/
theorem fits_fuel (d : Nat) (q : Option Int) :
    (Fmt.mk (d + (q.getD 0).natAbs + 1)).fitsB d q = true := by
  cases q with
  | none => rw [fitsB_none]; omega
  | some e =>
    rw [fitsB_some_pos _ _ _ (by omega)]
    have := pw_ge (d + e.natAbs + 1)
    simp only [Option.getD_some]
    omega

theorem need_spec (d : Nat) (q : Option Int) :
    0 < need d q ∧ (Fmt.mk (need d q)).fitsB d q = true ∧
      ∀ m, 0 < m → m < need d q → (Fmt.mk m).fitsB d q = false := by
  exact needFrom_spec d q (d + (q.getD 0).natAbs + 1) 1
    ⟨d + (q.getD 0).natAbs + 1, Nat.succ_pos _, Nat.lt_add_of_pos_left Nat.one_pos, fits_fuel d q⟩

theorem need_le_iff (d : Nat) (q : Option Int) (n : Nat) (hn : 0 < n) :
    need d q ≤ n ↔ (Fmt.mk n).fitsB d q = true := by
  obtain ⟨h0, h1, h2⟩ := need_spec d q
  exact ⟨fun h => fits_mono _ _ d q h0 h h1, fun h => Nat.le_of_not_lt fun hlt => by rw [h2 n hn hlt] at h; cases h⟩

theorem need_pos (d : Nat) (q : Option Int) : 0 < need d q := (need_spec d q).1

theorem need_mono_digits (d d' : Nat) (q : Option Int) (h : d ≤ d') : need d q ≤ need d' q := by
  rw [need_le_iff _ _ _ (need_pos d' q)]
  exact fitsB_mono_digits _ d d' q h (need_spec d' q).2.1

theorem need_eq_of_le_iff (d : Nat) (q : Option Int) (N : Nat) (hN : 0 < N)
    (h : ∀ n, 0 < n → (N ≤ n ↔ (Fmt.mk n).fitsB d q = true)) : need d q = N :=
  Nat.le_antisymm ((need_le_iff d q N hN).2 ((h N hN).1 (Nat.le_refl N)))
    ((h _ (need_pos d q)).2 (need_spec d q).2.1)

theorem need_some_eq_max (d : Nat) (e : Int) :
    need d (some e) = max (need d none) (need 1 (some e)) := by
  refine need_eq_of_le_iff _ _ _ (Nat.lt_of_lt_of_le (need_pos d none) (Nat.le_max_left ..)) fun n hn => ?_
  rw [fitsB_some_split _ _ _ hn, ← need_le_iff _ _ _ hn, ← need_le_iff _ _ _ hn, Nat.max_le]

/-! ## Exponent 0 fits every format; the formats up to 160 bits -/

theorem qmax_ge_90 (n : Nat) (hn : 0 < n) : (Fmt.mk n).qmax ≥ 90 := by
  have h1 := pw_ge n
  have h2 : pw 1 ≤ pw n := pw_mono hn
  have e : pw 1 = 32 := by decide
  simp only [Fmt.qmax, Fmt.emax, Fmt.p]
  rw [show (2 : Nat) ^ (2 * n + 3) = pw n from rfl]
  omega

theorem zero_in_range (n : Nat) (hn : 0 < n) : (Fmt.mk n).qmin ≤ 0 ∧ (0 : Int) ≤ (Fmt.mk n).qmax := by
  have h1 := qmax_ge_90 n hn
  simp only [Fmt.qmin]; omega

theorem fitsB_zero (n d : Nat) (hn : 0 < n) (hd : d ≤ (Fmt.mk n).p) : (Fmt.mk n).fitsB d (some 0) = true :=
  (fitsB_iff _ _ _).2 ⟨hd, zero_in_range n hn⟩

/-- the widest of the formats up to 160 bits: 43 digits, exponents −24617 … 24534 (the last rows of the two tables) -/
theorem small_range (n : Nat) (hn : 0 < n) (h5 : n ≤ 5) :
    (Fmt.mk n).qmax ≤ 24534 ∧ -24617 ≤ (Fmt.mk n).qmin ∧ (Fmt.mk n).p ≤ 43 := by
  have : n = 1 ∨ n = 2 ∨ n = 3 ∨ n = 4 ∨ n = 5 := by omega
  rcases this with rfl | rfl | rfl | rfl | rfl <;> decide

/-! ## The two tables: row `k` of either is the condition `need … ≤ k` -/

theorem table5 (N C : Nat) (hN : 0 < N) :
    (if N ≤ 1 then 32 else if N ≤ 2 then 64 else if N ≤ 3 then 96 else if N ≤ 4 then 128 else if N ≤ 5 then 160 else C)
      = if N ≤ 5 then 32 * N else C := by
  by_cases h : N ≤ 5
  · obtain rfl | rfl | rfl | rfl | rfl : N = 1 ∨ N = 2 ∨ N = 3 ∨ N = 4 ∨ N = 5 := by omega
    all_goals rfl
  · rw [if_neg (by omega), if_neg (by omega), if_neg (by omega), if_neg (by omega), if_neg h, if_neg h]

theorem need_none_le_iff (d k : Nat) (hk : 0 < k) : need d none ≤ k ↔ d ≤ 9 * k - 2 := by
  rw [need_le_iff _ _ k hk, fitsB_none]

theorem need_none (d : Nat) : need d none = (d + 10) / 9 := by
  apply need_eq_of_le_iff
  · omega
  · intro n hn; rw [fitsB_none]; omega

theorem need_none_eq (d : Nat) : need d none = if d ≤ 7 then 1 else (d + 2 + 8) / 9 := by
  rw [need_none]
  split
  · exact Nat.div_eq_of_lt_le (by omega) (by omega)
  · rfl

theorem widthForDigitsCalc_eq (d : Nat) : widthForDigitsCalc d = 32 * ((d + 2) / 9 + 1) := by
  unfold widthForDigitsCalc
  simp only
  split <;> omega

theorem widthForDigits_table (d : Nat) :
    widthForDigits d = if need d none ≤ 5 then 32 * need d none else widthForDigitsCalc d := by
  have r := need_none_le_iff d
  rw [← table5 _ _ (need_pos d none)]
  simp only [r 1 (by decide), r 2 (by decide), r 3 (by decide), r 4 (by decide), r 5 (by decide)]
  -- `9 * k - 2` for `k = 1 … 5` evaluates to the table's `7, 16, 25, 34, 43`
  rfl

theorem widthForDigits_eq (d : Nat) :
    widthForDigits d = 32 * (if d ≤ 43 then need d none else (d + 2) / 9 + 1) := by
  rw [widthForDigits_table, widthForDigitsCalc_eq]
  simp only [need_none_le_iff d 5 (by decide)]
  exact (apply_ite (32 * ·) ..).symm

theorem pw_5 : pw 5 = 8192 := by decide

theorem need_exp_le_iff (e : Int) (k : Nat) (hk : 0 < k) :
    need 1 (some e) ≤ k ↔ -(3 * (pw k : Int) + 9 * k - 4) ≤ e ∧ e ≤ 3 * (pw k : Int) - 9 * k + 3 := by
  rw [need_le_iff _ _ k hk, fitsB_some_pos k 1 e hk]
  omega

theorem exp_rows (e : Int) :
    ((-101 ≤ e ∧ e ≤ 90) ↔ need 1 (some e) ≤ 1) ∧
    ((-398 ≤ e ∧ e ≤ 369) ↔ need 1 (some e) ≤ 2) ∧
    ((-1559 ≤ e ∧ e ≤ 1512) ↔ need 1 (some e) ≤ 3) ∧
    ((-6176 ≤ e ∧ e ≤ 6111) ↔ need 1 (some e) ≤ 4) ∧
    ((-24617 ≤ e ∧ e ≤ 24534) ↔ need 1 (some e) ≤ 5) := by
  have r := need_exp_le_iff e
  have p : pw 1 = 32 ∧ pw 2 = 128 ∧ pw 3 = 512 ∧ pw 4 = 2048 := by decide
  rw [r 1 (by decide), r 2 (by decide), r 3 (by decide), r 4 (by decide), r 5 (by decide), p.1, p.2.1, p.2.2.1, p.2.2.2, pw_5]
  -- the bounds of either side evaluate to the same numerals
  exact ⟨Iff.rfl, Iff.rfl, Iff.rfl, Iff.rfl, Iff.rfl⟩

theorem widthForExponent_table (e : Int) :
    widthForExponent e = if need 1 (some e) ≤ 5 then 32 * need 1 (some e) else widthForExponentCalc e.natAbs := by
  obtain ⟨r1, r2, r3, r4, r5⟩ := exp_rows e
  rw [← table5 _ _ (need_pos 1 (some e))]
  simp only [← r1, ← r2, ← r3, ← r4, ← r5]
  -- what is left is the definition of `widthForExponent`
  rfl

theorem widthForExponentCalc_eq (a : Nat) (h : 3 ≤ (a / 3).log2) :
    widthForExponentCalc a = 32 * ((a / 3).log2 / 2) := by
  unfold widthForExponentCalc log2Floor
  have h2 : Nat.log2 2 = 1 := by decide
  rw [h2, Nat.div_one]
  simp only
  generalize (a / 3).log2 = L at h ⊢
  split <;> omega

/-- beyond the last row `|e| / 3 ≥ 8178 ≥ 2^12` -/
theorem log2_tail {e : Int} (h : ¬ (-24617 ≤ e ∧ e ≤ 24534)) : 12 ≤ (e.natAbs / 3).log2 := by
  have hx : 2 ^ 12 ≤ e.natAbs / 3 := (Nat.le_div_iff_mul_le (by decide)).2 (by omega)
  exact (Nat.le_log2 (Nat.ne_of_gt (Nat.lt_of_lt_of_le (by decide) hx))).2 hx

theorem widthForExponent_tail_eq (e : Int) (h : ¬ (-24617 ≤ e ∧ e ≤ 24534)) :
    widthForExponent e = 32 * ((e.natAbs / 3).log2 / 2) := by
  rw [widthForExponent_table, if_neg (fun h5 => h ((exp_rows e).2.2.2.2.2 h5)),
    widthForExponentCalc_eq _ (Nat.le_trans (by decide) (log2_tail h))]

/-- an exponent of magnitude in `[6Q, 24Q)`, `Q = pw m = 2^(2m+3)`, is inside the range of width `m + 2` and outside
    that of `m`: it needs `m + 1` or `m + 2` words -/
theorem need_exp_window (e : Int) (m : Nat) (hm : 0 < m) (hlo : 2 * pw m * 3 ≤ e.natAbs) (hhi : e.natAbs < 8 * pw m * 3) :
    need 1 (some e) ≤ m + 2 ∧ m + 2 ≤ need 1 (some e) + 1 := by
  have hQ := pw_ge m
  have h2 : ¬ need 1 (some e) ≤ m := by rw [need_exp_le_iff e m hm]; omega
  refine ⟨?_, Nat.succ_le_succ (Nat.lt_of_not_le h2)⟩
  rw [need_exp_le_iff e _ (Nat.succ_pos _), pw_succ, pw_succ]; omega

/-- `n = ⌊log2 (|e|/3)⌋ / 2` puts `|e|` in the window `[3·2^(2n), 3·2^(2n+2))` -/
theorem need_exp_tail (e : Int) (h : ¬ (-24617 ≤ e ∧ e ≤ 24534)) :
    need 1 (some e) ≤ (e.natAbs / 3).log2 / 2 ∧ (e.natAbs / 3).log2 / 2 ≤ need 1 (some e) + 1 := by
  have hL := log2_tail h
  have hne : e.natAbs / 3 ≠ 0 := fun h0 => by rw [h0] at hL; exact absurd hL (by decide)
  have hlo := (Nat.le_div_iff_mul_le (by decide)).1 (Nat.log2_self_le hne)
  have hhi := (Nat.div_lt_iff_lt_mul (by decide)).1 (@Nat.lt_log2_self (e.natAbs / 3))
  generalize (e.natAbs / 3).log2 = L at hL hlo hhi ⊢
  -- `L` is `2m + 4` or `2m + 5`, and `pw m = 2^(2m+3)`; the one `omega` sees `L` only
  obtain ⟨m, hm0, hm, l1, l2⟩ : ∃ m, 0 < m ∧ L / 2 = m + 2 ∧ 2 * m + 3 + 1 ≤ L ∧ L + 1 ≤ 2 * m + 3 + 3 := by
    clear h hne hlo hhi; exact ⟨L / 2 - 2, by omega⟩
  have h1 : 2 * pw m ≤ 2 ^ L := by
    rw [pw, Nat.mul_comm, ← Nat.pow_succ]; exact Nat.pow_le_pow_right (by decide) l1
  have h2 : 2 ^ (L + 1) ≤ 8 * pw m := by
    rw [pw, Nat.mul_comm, show 8 = 2 ^ 3 from rfl, ← Nat.pow_add]; exact Nat.pow_le_pow_right (by decide) l2
  rw [hm]
  exact need_exp_window e m hm0 (Nat.le_trans (Nat.mul_le_mul_right 3 h1) hlo)
    (Nat.lt_of_lt_of_le hhi (Nat.mul_le_mul_right 3 h2))

set_option linter.unusedVariables false in
/-- `hd` belongs to the statement the C07 check names, here and in the `bytesForPrecision` lemmas below; no proof uses it -/
theorem widthForDigits_spec (d : Nat) (hd : 0 < d) :
    ∃ n, widthForDigits d = 32 * n ∧ need d none ≤ n ∧ n ≤ need d none + 1 ∧
      (d ≤ 43 → n = need d none) := by
  refine ⟨_, widthForDigits_eq d, ?_⟩
  split
  · exact ⟨Nat.le_refl _, Nat.le_succ _, fun _ => rfl⟩
  · rw [need_none]; omega

theorem widthForExponent_spec (e : Int) :
    ∃ n, widthForExponent e = 32 * n ∧ need 1 (some e) ≤ n ∧ n ≤ need 1 (some e) + 1 ∧
      (need 1 (some e) ≤ 5 → n = need 1 (some e)) := by
  by_cases h5 : need 1 (some e) ≤ 5
  · exact ⟨_, by rw [widthForExponent_table, if_pos h5], Nat.le_refl _, Nat.le_succ _, fun _ => rfl⟩
  · have h := fun h => h5 ((exp_rows e).2.2.2.2.1 h)
    exact ⟨_, widthForExponent_tail_eq e h, (need_exp_tail e h).1, (need_exp_tail e h).2, fun h => absurd h h5⟩

theorem near_max {A B a b : Nat} (ha : A ≤ a ∧ a ≤ A + 1 ∧ (A ≤ 5 → a = A)) (hb : B ≤ b ∧ b ≤ B + 1 ∧ (B ≤ 5 → b = B)) :
    max A B ≤ max a b ∧ max a b ≤ max A B + 1 ∧ (max A B ≤ 5 → max a b = max A B) := by
  have hA := Nat.le_max_left A B
  have hB := Nat.le_max_right A B
  refine ⟨Nat.max_le.2 ⟨Nat.le_trans ha.1 (Nat.le_max_left ..), Nat.le_trans hb.1 (Nat.le_max_right ..)⟩,
    Nat.max_le.2 ⟨Nat.le_trans ha.2.1 (Nat.succ_le_succ hA), Nat.le_trans hb.2.1 (Nat.succ_le_succ hB)⟩, fun h => ?_⟩
  rw [ha.2.2 (Nat.le_trans hA h), hb.2.2 (Nat.le_trans hB h)]

/-- C07: never under-provisions, at most one step above the minimum, exactly minimal up to 160 bits -/
theorem bytesForPrecision_spec (d : Nat) (hd : 0 < d) (e : Option Int) :
    ∃ n, bytesForPrecision d e = 4 * n ∧ 0 < n ∧ (Fmt.mk n).fitsB d e = true ∧
      need d e ≤ n ∧ n ≤ need d e + 1 ∧ (need d e ≤ 5 → n = need d e) := by
  have hb : ∀ n, 32 * n / 8 = 4 * n := fun n => by omega
  obtain ⟨nd, hwd, d1, d2, d3⟩ := widthForDigits_spec d hd
  have hnd : need d none ≤ nd ∧ nd ≤ need d none + 1 ∧ (need d none ≤ 5 → nd = need d none) :=
    ⟨d1, d2, fun h => d3 ((need_none_le_iff d 5 (by decide)).1 h)⟩
  have hpos : 0 < nd := Nat.lt_of_lt_of_le (need_pos d none) d1
  cases e with
  | none => exact ⟨nd, by rw [bytesForPrecision, hwd, hb], hpos, (need_le_iff _ _ nd hpos).1 d1, hnd⟩
  | some e =>
    obtain ⟨ne, hwe, hne⟩ := widthForExponent_spec e
    have h := near_max hnd hne
    rw [← need_some_eq_max] at h
    have hpos' : 0 < max nd ne := Nat.lt_of_lt_of_le hpos (Nat.le_max_left _ _)
    exact ⟨max nd ne, by rw [bytesForPrecision, hwd, hwe, hb, hb, Nat.mul_max_mul_left],
      hpos', (need_le_iff _ _ _ hpos').1 h.1, h⟩

theorem bytesForPrecision_eq_of_need_le (d : Nat) (hd : 0 < d) (e : Option Int) (h : need d e ≤ 5) :
    bytesForPrecision d e = 4 * need d e := by
  obtain ⟨n, h1, _, _, _, _, h6⟩ := bytesForPrecision_spec d hd e
  rw [h1, h6 h]

theorem bytesForPrecision_le_iff (d : Nat) (hd : 0 < d) (e : Option Int) (cap : Nat) (hcap : cap ≤ 5) :
    bytesForPrecision d e ≤ 4 * cap ↔ need d e ≤ cap := by
  obtain ⟨n, h1, _, _, h4, _, h6⟩ := bytesForPrecision_spec d hd e
  rw [h1]
  by_cases h : need d e ≤ 5
  · rw [h6 h]; exact Nat.mul_le_mul_left_iff (by decide)
  · omega

theorem bytesForPrecision_eq_of_le (d : Nat) (hd : 0 < d) (e : Option Int) (cap : Nat) (hcap : cap ≤ 5)
    (h : bytesForPrecision d e ≤ 4 * cap) : bytesForPrecision d e = 4 * need d e :=
  bytesForPrecision_eq_of_need_le d hd e (Nat.le_trans ((bytesForPrecision_le_iff d hd e cap hcap).1 h) hcap)

/-! ## The exponent saturated to `i32`, from which the fixed types and `Bitstring` compute the width -/

theorem satI32_of_mem {e : Int} (h1 : i32Min ≤ e) (h2 : e ≤ i32Max) : satI32 e = e := by
  unfold satI32; rw [if_neg (Int.not_lt.2 h1), if_neg (Int.not_lt.2 h2)]

theorem satI32_cases (e : Int) : satI32 e = e ∨ (e < i32Min ∧ satI32 e = i32Min) ∨ (i32Max < e ∧ satI32 e = i32Max) := by
  unfold satI32
  split
  · exact Or.inr (Or.inl ⟨‹_›, rfl⟩)
  · split
    · exact Or.inr (Or.inr ⟨‹_›, rfl⟩)
    · exact Or.inl rfl

/-- up to `32·13` bits the whole exponent range is strictly inside `i32` -/
theorem fits_lt_i32 {n d : Nat} {e : Int} (hn : n ≤ 13) (h : (Fmt.mk n).fitsB d (some e) = true) :
    i32Min < e ∧ e < i32Max := by
  rw [fitsB_some] at h
  have : pw n ≤ 536870912 := pw_mono (n := 13) hn
  unfold i32Min i32Max
  omega

/-- … with room for the `k ≤ d ≤ p` fraction digits -/
theorem inI32_of_need_le {d k : Nat} {x : Int} (hk : k ≤ d) (h : need d (some (x - k)) ≤ 13) : inI32 x = true := by
  rw [need_le_iff _ _ 13 (by decide), fitsB_some, show pw 13 = 536870912 by decide] at h
  simp only [inI32, Bool.and_eq_true, decide_eq_true_eq]
  omega

theorem fitsB_satI32 {n d : Nat} (e : Int) (hn : n ≤ 13) :
    (Fmt.mk n).fitsB d (some (satI32 e)) = true ↔ (Fmt.mk n).fitsB d (some e) = true := by
  constructor
  · intro h
    obtain ⟨h1, h2⟩ := fits_lt_i32 hn h
    rcases satI32_cases e with he | ⟨_, he⟩ | ⟨_, he⟩ <;> rw [he] at h h1 h2
    · exact h
    · exact absurd h1 (Int.lt_irrefl _)
    · exact absurd h2 (Int.lt_irrefl _)
  · intro h
    obtain ⟨h1, h2⟩ := fits_lt_i32 hn h
    rwa [satI32_of_mem (Int.le_of_lt h1) (Int.le_of_lt h2)]

theorem satI32_need_le (e : Int) (d c : Nat) (hc : c ≤ 13) :
    need d (some e) ≤ c ↔ need d (some (satI32 e)) ≤ c := by
  by_cases hc0 : c = 0
  · have := need_pos d (some e); have := need_pos d (some (satI32 e)); omega
  · have hc0 := Nat.pos_of_ne_zero hc0
    rw [need_le_iff _ _ c hc0, need_le_iff _ _ c hc0, fitsB_satI32 e hc]

theorem satI32_eq_of_need_le (e : Int) (d c : Nat) (hc : c ≤ 13) (h : need d (some e) ≤ c) : satI32 e = e := by
  have hc1 : 0 < c := by have := need_pos d (some e); omega
  obtain ⟨h1, h2⟩ := fits_lt_i32 hc ((need_le_iff _ _ c hc1).1 h)
  exact satI32_of_mem (Int.le_of_lt h1) (Int.le_of_lt h2)

/-- the true exponent is within `d` of the `i32` range in `fromParsed`: an `i32` lowered by at most `d` fraction digits -/
theorem satI32_sufficient (e : Int) (d : Nat) (hd : 0 < d) (hlo : i32Min - d ≤ e) (hhi : e ≤ i32Max + d)
    (n : Nat) (hn : bytesForPrecision d (some (satI32 e)) = 4 * n) : (Fmt.mk n).fitsB d (some e) = true := by
  obtain ⟨n', h1, h2, h3, -⟩ := bytesForPrecision_spec d hd (some (satI32 e))
  obtain rfl := Nat.eq_of_mul_eq_mul_left (by decide) (h1.symm.trans hn)
  rcases satI32_cases e with he | ⟨hlt, he⟩ | ⟨hlt, he⟩ <;> rw [he] at h3
  · exact h3
  -- an end of the `i32` range fits only from 14 words on, and there the range reaches `9n − 2 ≥ d` further
  all_goals
    have h14 : 14 ≤ n' := Nat.le_of_not_lt fun h =>
      absurd (fits_lt_i32 (Nat.le_of_lt_succ h) h3) (by simp [Int.lt_irrefl])
    have : 2147483648 ≤ pw n' := pw_mono (m := 14) h14
    have := pw_ge n'
    rw [fitsB_some_pos _ _ _ h2] at h3 ⊢
    simp only [i32Min, i32Max] at hlo hhi hlt h3
    omega

theorem bytesForPrecision_sat_le_iff (d : Nat) (hd : 0 < d) (e : Int) (cap : Nat) (hcap : cap ≤ 5) :
    bytesForPrecision d (some (satI32 e)) ≤ 4 * cap ↔ need d (some e) ≤ cap := by
  rw [bytesForPrecision_le_iff d hd _ cap hcap, ← satI32_need_le e d cap (Nat.le_trans hcap (by decide))]

/-- what computing the width from the saturated exponent costs: nothing up to 5 words, and the width stays sufficient as
    long as `e` is within `d` of the `i32` range; without that bound it does not: `satI32_width_unbounded_false`. -/
theorem satI32_width_partial (e : Int) (d : Nat) (hd : 0 < d) :
    (need d (some e) ≤ 5 ↔ need d (some (satI32 e)) ≤ 5) ∧ (need d (some e) ≤ 5 → satI32 e = e) ∧
    (i32Min - d ≤ e → e ≤ i32Max + d →
      ∀ n, bytesForPrecision d (some (satI32 e)) = 4 * n → (Fmt.mk n).fitsB d (some e) = true) :=
  ⟨satI32_need_le e d 5 (by decide), satI32_eq_of_need_le e d 5 (by decide),
    fun hlo hhi n hn => satI32_sufficient e d hd hlo hhi n hn⟩

/-- `d = 1`, `e = 10^10` saturates to `i32::MAX`, whose width is `32·14` bits, and `10^10` is beyond that format's range -/
theorem satI32_width_unbounded_false :
    ¬ ∀ (e : Int) (d : Nat), 0 < d →
        ∀ n, bytesForPrecision d (some (satI32 e)) = 4 * n → (Fmt.mk n).fitsB d (some e) = true := by
  intro h
  have h1 : bytesForPrecision 1 (some (satI32 10000000000)) = 4 * 14 := by decide +kernel
  have h2 := h 10000000000 1 (by decide) 14 h1
  have h3 : (Fmt.mk 14).fitsB 1 (some 10000000000) = false := by decide +kernel
  rw [h3] at h2
  exact Bool.noConfusion h2

/-! ## Instances: the hypotheses are satisfiable and the bounds are attained -/

example : (Fmt.mk 3).fitsB 16 (some 369) = true := fits_mono 2 3 16 (some 369) (by decide) (by decide) (by decide)
example : need 44 (some (-24618)) = 6 := by decide +kernel
-- a digit count where the closed form is exactly minimal, and one where it is one step above
example : widthForDigits 44 = 32 * 6 ∧ need 44 none = 6 := by decide +kernel
example : widthForDigits 52 = 32 * 7 ∧ need 52 none = 6 := by decide +kernel
-- an exponent where the closed form is exactly minimal, and one where it is one step above
example : widthForExponent 24535 = 32 * 6 ∧ need 1 (some 24535) = 6 := by decide +kernel
example : widthForExponent 49152 = 32 * 7 ∧ need 1 (some 49152) = 6 := by decide +kernel
example : ∃ n, bytesForPrecision 30 (some (-7000)) = 4 * n ∧ 0 < n ∧ (Fmt.mk n).fitsB 30 (some (-7000)) = true ∧
    need 30 (some (-7000)) ≤ n ∧ n ≤ need 30 (some (-7000)) + 1 ∧ (need 30 (some (-7000)) ≤ 5 → n = need 30 (some (-7000))) :=
  bytesForPrecision_spec 30 (by decide) (some (-7000))
-- a true exponent below `i32::MIN` (an `i32` lowered by 3 fraction digits out of 5 digits)
example : (Fmt.mk 14).fitsB 5 (some (-2147483651)) = true :=
  satI32_sufficient (-2147483651) 5 (by decide) (by decide) (by decide) 14 (by decide +kernel)

#print axioms fits_mono
#print axioms need_spec
#print axioms need_le_iff
#print axioms need_some_eq_max
#print axioms widthForDigits_spec
#print axioms widthForDigits_eq
#print axioms widthForExponent_spec
#print axioms bytesForPrecision_spec
#print axioms need_mono_digits
#print axioms bytesForPrecision_le_iff
#print axioms bytesForPrecision_eq_of_le
#print axioms bytesForPrecision_sat_le_iff
#print axioms satI32_need_le
#print axioms satI32_eq_of_need_le
#print axioms satI32_sufficient
#print axioms satI32_width_partial
#print axioms satI32_width_unbounded_false

end Decstr.Proofs
