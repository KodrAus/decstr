import Decstr.Proofs.Digits
import Decstr.Proofs.Grammar
/-!
# Proofs.ParseLemmas — the reference recogniser `Spec.parse` on the texts the model writes

The formatter, `itoa` (`toDecimal`) and the scratch text of the float conversion write
`[-] digits [. digits] [e toDecimal x]` or a special token.  Such a text is a word of the declarative grammar by
construction, so `Grammar.parse_complete` yields its parse with the written digit strings as fields; the recogniser runs
only on the constant tokens.  Core Lean only.
-/
namespace Decstr.Proofs
open Decstr.Model Decstr.Spec

theorem digitChar_toNat : ∀ d < 10, (Nat.digitChar d).toNat = 48 + d := by decide +kernel

/-- ASCII decimal digits of a natural number (what `toDecimal` writes after the sign) -/
def natDigits (n : Nat) : List Nat := (Nat.toDigits 10 n).map Char.toNat

theorem natDigits_eq_if (n : Nat) :
    natDigits n = if n < 10 then [48 + n] else natDigits (n / 10) ++ [48 + n % 10] := by
  unfold natDigits
  rw [Nat.toDigits_eq_if (by decide)]
  split
  · simp [digitChar_toNat n ‹_›]
  · simp [digitChar_toNat (n % 10) (Nat.mod_lt _ (by decide))]

/-- one induction for the three projections below -/
theorem natDigits_spec (n : Nat) : AsciiDigits (natDigits n) ∧ natDigits n ≠ [] ∧ valOf (natDigits n) = n := by
  induction n using Nat.strongRecOn with
  | _ n ih =>
    rw [natDigits_eq_if]
    split
    · refine ⟨?_, by simp, ?_⟩
      · intro d hd; simp at hd; omega
      · simp [valOf]
    · obtain ⟨h1, _, h3⟩ := ih (n / 10) (by omega)
      refine ⟨?_, by simp, ?_⟩
      · rw [asciiDigits_append]; refine ⟨h1, ?_⟩
        intro d hd; simp at hd; omega
      · rw [valOf_snoc, h3, Nat.add_sub_cancel_left, Nat.mul_comm]; exact Nat.div_add_mod n 10

theorem natDigits_ascii (n : Nat) : AsciiDigits (natDigits n) := (natDigits_spec n).1
theorem natDigits_ne_nil (n : Nat) : natDigits n ≠ [] := (natDigits_spec n).2.1
theorem valOf_natDigits (n : Nat) : valOf (natDigits n) = n := (natDigits_spec n).2.2

theorem natDigits_head (n : Nat) (hn : 0 < n) : (natDigits n).head? ≠ some 48 := by
  induction n using Nat.strongRecOn with
  | _ n ih =>
    rw [natDigits_eq_if]
    split
    · simp; omega
    · have := ih (n / 10) (by omega) (by omega)
      have hne := natDigits_ne_nil (n / 10)
      cases h : natDigits (n / 10) with
      | nil => exact absurd h hne
      | cons a l => rw [h] at this; simpa using this

theorem natDigits_length_le (n k : Nat) (hk : 0 < k) : (natDigits n).length ≤ k ↔ n < 10 ^ k := by
  unfold natDigits
  rw [List.length_map]
  exact Nat.length_toDigits_le_iff (by decide) hk

/-- the definition unfolded; `toDecimal_signText` is the same through `signText` -/
theorem toDecimal_eq (x : Int) : toDecimal x = (if x < 0 then [45] else []) ++ natDigits x.natAbs := rfl

theorem toDecimal_nat (n : Nat) : toDecimal (n : Int) = natDigits n := by
  simp [toDecimal_eq]

theorem expValue_toDecimal (x : Int) : expValue (some (decide (x < 0), digitVals (natDigits x.natAbs))) = x := by
  have h := valOf_natDigits x.natAbs
  unfold valOf at h
  rw [expValue, h]
  by_cases hx : x < 0
  · simp [hx]; omega
  · simp [hx]; omega

/-- `-` or nothing: what the formatter writes -/
def signText (neg : Bool) : List Nat := if neg then [45] else []

theorem toDecimal_signText (v : Int) : toDecimal v = signText (decide (v < 0)) ++ natDigits v.natAbs := by
  rw [toDecimal_eq]
  by_cases h : v < 0 <;> simp [h, signText]

/-- `.ddd` or nothing -/
def fracChars : Option (List Nat) → List Nat
  | none => []
  | some f => 46 :: f

/-- `e` followed by `toDecimal x`, or nothing -/
def sciChars : Option Int → List Nat
  | none => []
  | some x => 101 :: toDecimal x

theorem lower_e : lower 101 = 101 := rfl
theorem lower_E : lower 69 = 101 := rfl

theorem isSign_signText (neg : Bool) : IsSign (signText neg) (if neg then some true else none) := by
  cases neg
  · exact .none
  · exact .minus

theorem isD_of_ascii {ds : List Nat} (h : AsciiDigits ds) (hne : ds ≠ []) : IsD ds :=
  ⟨hne, fun c hc => Grammar.isDigit_iff.2 (h c hc)⟩

/-- `[-]ddd[.ddd][e[-]ddd]`: every text of the formatter -/
theorem parse_formatted (neg : Bool) {i : List Nat} (fr : Option (List Nat)) (x : Option Int)
    (hi : AsciiDigits i) (hine : i ≠ []) (hfr : ∀ f, fr = some f → AsciiDigits f ∧ f ≠ []) :
    parse (signText neg ++ (i ++ (fracChars fr ++ sciChars x))) =
      some (.finite neg (digitVals i) (digitVals (fr.getD []))
        (x.map fun x => (decide (x < 0), digitVals (natDigits x.natAbs)))) := by
  have hf : IsFrac (fracChars fr) (digitVals (fr.getD [])) := by
    cases fr with
    | none => exact .none
    | some f => exact .some f (isD_of_ascii (hfr f rfl).1 (hfr f rfl).2)
  have hx : IsExp (sciChars x) (x.map fun x => (decide (x < 0), digitVals (natDigits x.natAbs))) := by
    cases x with
    | none => exact .none
    | some x =>
      have hd := isD_of_ascii (natDigits_ascii x.natAbs) (natDigits_ne_nil _)
      by_cases hx : x < 0
      · simpa [sciChars, toDecimal_eq, hx, digitVals] using IsExp.some 101 [45] _ _ (.inl rfl) .minus hd
      · simpa [sciChars, toDecimal_eq, hx, digitVals] using IsExp.some 101 [] _ _ (.inl rfl) .none hd
  have h := Grammar.parse_complete (.finite _ _ _ _ _ _ _ (isSign_signText neg) (isD_of_ascii hi hine) hf hx)
  rw [List.append_assoc, List.append_assoc] at h
  rw [h]
  cases neg <;> rfl

/-- `[-]ddd` -/
theorem parse_int (neg : Bool) {i : List Nat} (hi : AsciiDigits i) (hine : i ≠ []) :
    parse (signText neg ++ i) = some (.finite neg (digitVals i) [] none) := by
  simpa [fracChars, sciChars] using parse_formatted neg none none hi hine (by simp)

/-- `[-]ddd.ddd` -/
theorem parse_frac (neg : Bool) {i f : List Nat} (hi : AsciiDigits i) (hine : i ≠ [])
    (hf : AsciiDigits f) (hfne : f ≠ []) :
    parse (signText neg ++ (i ++ 46 :: f)) = some (.finite neg (digitVals i) (digitVals f) none) := by
  simpa [fracChars, sciChars] using parse_formatted neg (some f) none hi hine (by rintro _ ⟨⟩; exact ⟨hf, hfne⟩)

/-- `[-]ddde[-]ddd` with the exponent written by `toDecimal` -/
theorem parse_sci_int (neg : Bool) {i : List Nat} (hi : AsciiDigits i) (hine : i ≠ []) (x : Int) :
    parse (signText neg ++ (i ++ 101 :: toDecimal x)) =
      some (.finite neg (digitVals i) [] (some (decide (x < 0), digitVals (natDigits x.natAbs)))) := by
  simpa [fracChars, sciChars] using parse_formatted neg none (some x) hi hine (by simp)

theorem parse_toDecimal (v : Int) :
    parse (toDecimal v) = some (.finite (decide (v < 0)) (digitVals (natDigits v.natAbs)) [] none) := by
  rw [toDecimal_signText]
  exact parse_int _ (natDigits_ascii _) (natDigits_ne_nil _)

theorem datum_finite (s : Bool) (i fr : List Nat) (ex : Option (Bool × List Nat)) :
    (Numeral.finite s i fr ex).datum = .fin s (ofDigits (i ++ fr)) (expValue ex - fr.length) := by
  cases ex with
  | none => rfl
  | some p => obtain ⟨en, ds⟩ := p; rfl

theorem datum_sci (neg : Bool) (i fr : List Nat) (x : Int) :
    (Numeral.finite neg (digitVals i) (digitVals fr) (some (decide (x < 0), digitVals (natDigits x.natAbs)))).datum =
      .fin neg (valOf (i ++ fr)) (x - fr.length) := by
  simp only [datum_finite, expValue_toDecimal, valOf, digitVals_append, digitVals_length]

theorem datum_plain (neg : Bool) (i fr : List Nat) :
    (Numeral.finite neg (digitVals i) (digitVals fr) none).datum = .fin neg (valOf (i ++ fr)) (0 - fr.length) := by
  simp only [datum_finite, expValue, valOf, digitVals_append, digitVals_length]

/-- `[-]inf` -/
theorem parse_inf (neg : Bool) : parse (signText neg ++ [105, 110, 102]) = some (.inf neg) := by
  cases neg <;> rfl

/-- `[-]nan`, `[-]snan` with no payload -/
theorem parse_nan_bare (neg quiet : Bool) :
    parse (signText neg ++ (if quiet then [110, 97, 110] else [115, 110, 97, 110])) = some (.nan neg (!quiet) none) := by
  cases neg <;> cases quiet <;> rfl

/-- `[-]nan(ddd)`, `[-]snan(ddd)` -/
theorem parse_nan_payload (neg quiet : Bool) {ds : List Nat} (hd : AsciiDigits ds) :
    parse (signText neg ++ ((if quiet then [110, 97, 110] else [115, 110, 97, 110]) ++ ([40] ++ ds ++ [41]))) =
      some (.nan neg (!quiet) (some (digitVals ds))) := by
  have hs : IsSig (if quiet then [] else [115]) (!quiet) := by
    cases quiet
    · exact .signalling _ (by decide)
    · exact .quiet
  have h := Grammar.parse_complete (.nan _ _ [110, 97, 110] _ _ _ _ (isSign_signText neg) hs (by decide)
    (.some ds fun c hc => Grammar.isDigit_iff.2 (hd c hc)))
  cases neg <;> cases quiet <;> exact h

end Decstr.Proofs

#print axioms Decstr.Proofs.parse_toDecimal
#print axioms Decstr.Proofs.parse_nan_payload
#print axioms Decstr.Proofs.natDigits_spec
