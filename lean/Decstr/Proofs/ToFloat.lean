import Decstr.Proofs.ParseLemmas
/-!
# Proofs.ToFloat — decimal → binary float (`to_f32` / `to_f64`), property C13 and the "converts back" half of C12

Subject: `floatText`, `parseFloatBits`, `toFloatFinite`, `toFloatNan` in `Decstr/Model/Convert.lean`
(Rust: `src/num.rs` `parse_ascii`, `src/convert/from_binary_float.rs` `decimal_to_binary_float`).
`str::parse::<f32|f64>` is modelled as exact round-to-nearest-even (`Spec.rneDecSafe`): trusted base.

`toFloatFinite_eq` puts the finite arm in closed form for every binary format with `1 ≤ prec`, `1 ≤ ebits`; the statements
after it read it at binary32/binary64.  Core Lean only.
-/
namespace Decstr.Proofs
open Decstr.Model Decstr.Spec

/-! ## The significant digits `floatText` writes -/

/-- the coefficient as `floatText` writes it: leading zeros dropped, but at least one digit -/
def sigText (digits : List Nat) : List Nat :=
  if (digits.dropWhile (· == 48)).isEmpty then [48] else digits.dropWhile (· == 48)

theorem sigText_length (digits : List Nat) :
    (sigText digits).length = max 1 (digits.dropWhile (· == 48)).length := by
  unfold sigText
  cases h : digits.dropWhile (· == 48) with
  | nil => rfl
  | cons a l => simp

theorem sigText_ne_nil (digits : List Nat) : sigText digits ≠ [] :=
  List.ne_nil_of_length_pos (by rw [sigText_length]; exact Nat.le_max_left 1 _)

theorem sigText_ascii {digits : List Nat} (hds : AsciiDigits digits) : AsciiDigits (sigText digits) := by
  unfold sigText
  split
  · exact asciiDigits_zero
  · exact hds.dropWhile _

theorem valOf_sigText (digits : List Nat) : valOf (sigText digits) = valOf digits := by
  unfold sigText
  split
  · rename_i h
    rw [List.isEmpty_iff] at h
    rw [valOf_eq_zero_of_dropWhile_nil digits h]; rfl
  · exact valOf_dropWhile_zero digits

theorem signText_length (neg : Bool) : (signText neg).length = if neg then 1 else 0 := by
  cases neg <;> rfl

theorem toDecimal_length_pos (e : Int) : 1 ≤ (toDecimal e).length := by
  rw [toDecimal_eq, List.length_append]
  have := natDigits_ne_nil e.natAbs
  have : 0 < (natDigits e.natAbs).length := List.length_pos_iff.mpr this
  omega

/-- `floatText` in closed form: the text is `[-] sig e toDecimal(exponent)`, produced exactly when it fits 25 bytes -/
theorem floatText_eq (neg : Bool) (digits : List Nat) (e : Int) :
    floatText neg digits e =
      if (if neg then 1 else 0) + (sigText digits).length + 1 + (toDecimal e).length ≤ 25
      then some (signText neg ++ (sigText digits ++ 101 :: toDecimal e)) else none := by
  have hpos := toDecimal_length_pos e
  have hs := signText_length neg
  have h0 : floatText neg digits e = (if (signText neg ++ sigText digits).length + 1 > 25 then none
      else if (signText neg ++ sigText digits ++ [101]).length + (toDecimal e).length > 25 then none
      else some (signText neg ++ sigText digits ++ [101] ++ toDecimal e)) := by
    unfold floatText signText sigText scratchCap intToAscii
    rfl
  rw [h0]
  simp only [List.length_append, List.length_cons, List.length_nil, hs]
  by_cases h : (if neg then 1 else 0) + (sigText digits).length + 1 + (toDecimal e).length ≤ 25
  · rw [if_pos h, if_neg (by omega), if_neg (by omega)]
    simp
  · rw [if_neg h]
    by_cases h1 : (if neg = true then 1 else 0) + (sigText digits).length + 1 > 25
    · rw [if_pos h1]
    · rw [if_neg h1, if_pos (by omega)]

theorem floatText_parse (neg : Bool) (digits : List Nat) (hds : AsciiDigits digits) (e : Int) {t : List Nat}
    (h : floatText neg digits e = some t) :
    parse t = some (.finite neg (digitVals (sigText digits)) [] (some (decide (e < 0), digitVals (natDigits e.natAbs)))) := by
  rw [floatText_eq] at h
  obtain rfl := Option.some.inj (Option.ite_none_right_eq_some.mp h).2
  exact parse_sci_int neg (sigText_ascii hds) (sigText_ne_nil digits) e

theorem floatText_denotes (neg : Bool) (digits : List Nat) (hds : AsciiDigits digits) (e : Int) (t : List Nat)
    (h : floatText neg digits e = some t) :
    ∃ num, parse t = some num ∧ num.datum = .fin neg (valOf digits) e := by
  refine ⟨_, floatText_parse neg digits hds e h, ?_⟩
  have := datum_sci neg (sigText digits) [] e
  simp only [digitVals_nil, List.append_nil, List.length_nil] at this
  rw [this, valOf_sigText]
  simp

/-- the scratch buffer holds 25 bytes: sign, significant digits (at least one), `e`, exponent text -/
theorem floatText_some_iff (neg : Bool) (digits : List Nat) (e : Int) :
    (floatText neg digits e).isSome ↔
      (if neg then 1 else 0) + max 1 (digits.dropWhile (· == 48)).length + 1 + (toDecimal e).length ≤ 25 := by
  rw [floatText_eq, sigText_length]
  split <;> simp [*]

/-! ## The rounding oracle never returns the infinity pattern -/

theorem rneRat_lt {B : BinFmt} {n d m : Nat} (h : rneRat B n d = some m) : m < B.infBits := by
  unfold rneRat at h
  simp only at h
  obtain ⟨h1, h2⟩ := Option.ite_none_left_eq_some.mp h
  cases h2
  exact Nat.lt_of_not_ge h1

theorem rneDec_lt {B : BinFmt} {c : Nat} {e : Int} {m : Nat} (h : rneDec B c e = some m) : m < B.infBits := by
  unfold rneDec at h
  split at h <;> exact rneRat_lt h

theorem infBits_pos (B : BinFmt) (hB : 1 ≤ B.ebits) : 0 < B.infBits := by
  have : 1 < 2 ^ B.ebits := Nat.one_lt_two_pow (by omega)
  exact Nat.mul_pos (by omega) (Nat.two_pow_pos _)

theorem rneDecSafe_lt' (B : BinFmt) (hB : 1 ≤ B.ebits) {c : Nat} {e : Int} {m : Nat}
    (h : rneDecSafe B c e = some m) : m < B.infBits := by
  have h0 := infBits_pos B hB
  unfold rneDecSafe at h
  split at h
  · cases h; exact h0
  · split at h
    · cases h
    · split at h
      · cases h; exact h0
      · exact rneDec_lt h

theorem bounds_of_std {B : BinFmt} (hB : B = binary32 ∨ B = binary64) : 2 ≤ B.prec ∧ 2 ≤ B.ebits ∧ 1 ≤ B.width := by
  rcases hB with rfl | rfl <;> decide

theorem pos_of_std {B : BinFmt} (hB : B = binary32 ∨ B = binary64) : 1 ≤ B.prec ∧ 1 ≤ B.ebits := by
  have := bounds_of_std hB; omega

/-- `rneDecSafe_lt'` at binary32/binary64 -/
theorem rneDecSafe_lt (B : BinFmt) (hB : B = binary32 ∨ B = binary64) (c : Nat) (e : Int) (m : Nat)
    (h : rneDecSafe B c e = some m) : m < B.infBits :=
  rneDecSafe_lt' B (pos_of_std hB).2 h

/-- the sign as the summand the model puts in front of a magnitude (`(if neg then B.signMask else 0) + bits` in
    `toFloatNan`, `toFloat`, `parseFloatBits`): the top bit of a `width`-bit pattern -/
def sgnBits (B : BinFmt) (neg : Bool) : Nat := if neg then B.signMask else 0

/-- `str::parse` (as modelled) applied to the scratch text: the rounding of `valOf digits · 10^e`, or infinity -/
theorem parseFloatBits_floatText (B : BinFmt) (neg : Bool) (digits : List Nat) (hds : AsciiDigits digits) (e : Int)
    (t : List Nat) (h : floatText neg digits e = some t) :
    parseFloatBits B t = some (sgnBits B neg + (rneDecSafe B (valOf digits) e).getD B.infBits) := by
  have hx := expValue_toDecimal e
  have hv : ofDigits (digitVals (sigText digits) ++ []) = valOf digits := by
    rw [List.append_nil, ← valOf_sigText digits]; rfl
  unfold parseFloatBits
  rw [floatText_parse neg digits hds e h]
  simp only [hx, hv, List.length_nil, Int.natCast_zero, Int.sub_zero, sgnBits]
  cases rneDecSafe B (valOf digits) e <;> rfl

/-! ## A pattern is its sign in front of its magnitude -/

theorem infBits_lt_signMask (B : BinFmt) (hp : 1 ≤ B.prec) : B.infBits < B.signMask := by
  unfold BinFmt.infBits BinFmt.signMask BinFmt.width
  have e : B.prec + B.ebits - 1 = B.ebits + (B.prec - 1) := by omega
  rw [e, Nat.pow_add]
  exact Nat.mul_lt_mul_of_pos_right (Nat.sub_lt (Nat.two_pow_pos _) Nat.one_pos) (Nat.two_pow_pos _)

theorem sgnBits_add_mod {B : BinFmt} (neg : Bool) {x : Nat} (hx : x < B.signMask) : (sgnBits B neg + x) % B.signMask = x := by
  cases neg <;> simp [sgnBits, Nat.mod_eq_of_lt hx]

theorem two_signMask (B : BinFmt) (hw : 1 ≤ B.width) : 2 ^ B.width = 2 * B.signMask := by
  rw [Nat.mul_comm]; exact (Nat.two_pow_pred_mul_two hw).symm

theorem sgnBits_add_lt (B : BinFmt) (hw : 1 ≤ B.width) (neg : Bool) {x : Nat} (hx : x < B.signMask) :
    (sgnBits B neg + x ≥ B.signMask ↔ neg = true) ∧ sgnBits B neg + x < 2 ^ B.width := by
  rw [two_signMask B hw]
  cases neg <;> simp [sgnBits] <;> omega

theorem sgnBits_add_mod_self (B : BinFmt) (hw : 1 ≤ B.width) (bits : Nat) (hbits : bits < 2 ^ B.width) :
    sgnBits B (decide (bits ≥ B.signMask)) + bits % B.signMask = bits := by
  rw [two_signMask B hw] at hbits
  by_cases hs : bits ≥ B.signMask
  · rw [Nat.mod_eq_sub_mod hs, Nat.mod_eq_of_lt (by omega)]; simp [sgnBits, hs]
  · rw [Nat.mod_eq_of_lt (by omega)]; simp [sgnBits, hs]

theorem special_sgnBits_add (B : BinFmt) (hp : 1 ≤ B.prec) (neg : Bool) {m : Nat} (hm : m ≤ B.infBits) :
    (B.isInf (sgnBits B neg + m) || B.isNan (sgnBits B neg + m)) = (m == B.infBits) := by
  have h1 := infBits_lt_signMask B hp
  have h2 : ¬ m > B.infBits := Nat.not_lt.mpr hm
  simp [BinFmt.isInf, BinFmt.isNan, sgnBits_add_mod neg (Nat.lt_of_le_of_lt hm h1), h2]

theorem infinity_bits (B : BinFmt) (hp : 1 ≤ B.prec) (neg : Bool) :
    B.isInf (sgnBits B neg + B.infBits) = true ∧ (sgnBits B neg + B.infBits ≥ B.signMask ↔ neg = true) ∧
      sgnBits B neg + B.infBits < 2 ^ B.width := by
  have h1 := infBits_lt_signMask B hp
  refine ⟨?_, sgnBits_add_lt B (by unfold BinFmt.width; omega) neg h1⟩
  simp [BinFmt.isInf, sgnBits_add_mod neg h1]

/-- `Some` exactly when the text fits the scratch buffer and the rounding is finite; then the sign in front of the rounding.
    (`1 ≤ B.prec` is needed: with `prec = 0` the "infinity pattern" is not below the sign mask and the model's infinity test
    misfires, see the last example of the file.) -/
theorem toFloatFinite_eq (B : BinFmt) (hp : 1 ≤ B.prec) (hb : 1 ≤ B.ebits) (neg : Bool) (digits : List Nat)
    (hds : AsciiDigits digits) (e : Int) :
    toFloatFinite B neg digits e =
      if (floatText neg digits e).isSome then (rneDecSafe B (valOf digits) e).map (sgnBits B neg + ·) else none := by
  unfold toFloatFinite
  cases ht : floatText neg digits e with
  | none => rfl
  | some t =>
    simp only [parseFloatBits_floatText B neg digits hds e t ht, Option.isSome_some, if_true]
    cases hr : rneDecSafe B (valOf digits) e with
    | none => simp [special_sgnBits_add B hp neg (Nat.le_refl _)]
    | some m =>
      have hm := rneDecSafe_lt' B hb hr
      simp [special_sgnBits_add B hp neg (Nat.le_of_lt hm), Nat.ne_of_lt hm]

/-- C13 never wrong: a returned float is the correctly rounded value, finite, with the decimal's sign -/
theorem toFloatFinite_sound (B : BinFmt) (hB : B = binary32 ∨ B = binary64) (neg : Bool) (digits : List Nat)
    (hds : AsciiDigits digits) (e : Int) (bits : Nat) (h : toFloatFinite B neg digits e = some bits) :
    ∃ m, rneDecSafe B (valOf digits) e = some m ∧ m < B.infBits ∧ bits = (if neg then B.signMask else 0) + m := by
  rw [toFloatFinite_eq B (pos_of_std hB).1 (pos_of_std hB).2 neg digits hds e] at h
  obtain ⟨m, hm, rfl⟩ := Option.map_eq_some_iff.mp (Option.ite_none_right_eq_some.mp h).2
  exact ⟨m, hm, rneDecSafe_lt' B (pos_of_std hB).2 hm, rfl⟩

/-- C13: None whenever the correctly rounded result would be infinite -/
theorem toFloatFinite_overflow (B : BinFmt) (hB : B = binary32 ∨ B = binary64) (neg : Bool) (digits : List Nat)
    (hds : AsciiDigits digits) (e : Int) (h : rneDecSafe B (valOf digits) e = none) :
    toFloatFinite B neg digits e = none := by
  rw [toFloatFinite_eq B (pos_of_std hB).1 (pos_of_std hB).2 neg digits hds e, h, Option.map_none, ite_self]

/-- sign, 17 digits, `e` and an exponent of 6 characters (−99999 … 999999) fill the 25-byte scratch buffer: `1 + 17 + 1 + 6` -/
theorem toDecimal_length_le_six (e : Int) (he : -99999 ≤ e ∧ e ≤ 999999) : (toDecimal e).length ≤ 6 := by
  rw [toDecimal_eq, List.length_append]
  by_cases hneg : e < 0
  · have : (natDigits e.natAbs).length ≤ 5 := (natDigits_length_le _ 5 (by decide)).mpr (by omega)
    simp [hneg]; omega
  · have : (natDigits e.natAbs).length ≤ 6 := (natDigits_length_le _ 6 (by decide)).mpr (by omega)
    simp [hneg]; omega

theorem floatText_isSome_of_small (neg : Bool) (digits : List Nat) (e : Int)
    (hsig : (digits.dropWhile (· == 48)).length ≤ 17) (he : (toDecimal e).length ≤ 6) :
    (floatText neg digits e).isSome := by
  rw [floatText_some_iff]
  have : (if neg then 1 else 0) ≤ 1 := by cases neg <;> decide
  omega

/-- C13: `Some` at least for at most 17 significant digits with an exponent of at most 6 characters and a finite
    rounding (`toFloatFinite_some` assumes `m < B.infBits` on top, which follows from `hm`) -/
theorem toFloatFinite_some_strong (B : BinFmt) (hB : B = binary32 ∨ B = binary64) (neg : Bool) (digits : List Nat)
    (hds : AsciiDigits digits) (e : Int) (hsig : (digits.dropWhile (· == 48)).length ≤ 17)
    (he : -99999 ≤ e ∧ e ≤ 999999) (m : Nat) (hm : rneDecSafe B (valOf digits) e = some m) :
    toFloatFinite B neg digits e = some (sgnBits B neg + m) := by
  rw [toFloatFinite_eq B (pos_of_std hB).1 (pos_of_std hB).2 neg digits hds e,
    if_pos (floatText_isSome_of_small neg digits e hsig (toDecimal_length_le_six e he)), hm]
  rfl

set_option linter.unusedVariables false in
/-- the property's wording, with its redundant `hfin`: use `toFloatFinite_some_strong` -/
theorem toFloatFinite_some (B : BinFmt) (hB : B = binary32 ∨ B = binary64) (neg : Bool) (digits : List Nat)
    (hds : AsciiDigits digits) (e : Int) (hsig : (digits.dropWhile (· == 48)).length ≤ 17)
    (he : -99999 ≤ e ∧ e ≤ 999999) (m : Nat) (hm : rneDecSafe B (valOf digits) e = some m) (hfin : m < B.infBits) :
    toFloatFinite B neg digits e = some ((if neg then B.signMask else 0) + m) :=
  toFloatFinite_some_strong B hB neg digits hds e hsig he m hm

/-- the magnitude `toFloatNan` builds: the quiet NaN, with the payload or-ed in when there is one.  `% 2^width` is the cast
    of the parsed payload to the float's unsigned integer type, `&&& nanPayloadMask` the `F32/F64_NAN_PAYLOAD_MASK` of
    `decimal_to_binary_float` -/
def nanMagnitude (B : BinFmt) (payload : Int) : Nat :=
  if payload = 0 then quietNanBits B else quietNanBits B ||| (payload.toNat % 2 ^ B.width &&& nanPayloadMask B)

theorem toFloatNan_eq (B : BinFmt) (neg : Bool) (ds : List Nat) :
    toFloatNan B neg ds = sgnBits B neg + nanMagnitude B ((intFromAscii ⟨true, B.width⟩ false ds 0).getD 0) := rfl

theorem nanMagnitude_bounds (B : BinFmt) (hB : B = binary32 ∨ B = binary64) (p : Int) :
    B.infBits < nanMagnitude B p ∧ nanMagnitude B p < B.signMask := by
  have hq : B.infBits < quietNanBits B ∧ quietNanBits B < 2 ^ (B.width - 1) ∧ nanPayloadMask B < 2 ^ (B.width - 1) := by
    rcases hB with rfl | rfl <;> decide
  unfold nanMagnitude
  split
  · exact ⟨hq.1, hq.2.1⟩
  · constructor
    · exact Nat.lt_of_lt_of_le hq.1 Nat.left_le_or
    · exact Nat.or_lt_two_pow hq.2.1 (Nat.lt_of_le_of_lt Nat.and_le_right hq.2.2)

/-- NaN maps to a NaN of the same sign, whatever the payload -/
theorem toFloatNan_isNan (B : BinFmt) (hB : B = binary32 ∨ B = binary64) (neg : Bool) (ds : List Nat) :
    B.isNan (toFloatNan B neg ds) = true ∧ (toFloatNan B neg ds ≥ B.signMask ↔ neg = true) ∧
      toFloatNan B neg ds < 2 ^ B.width := by
  rw [toFloatNan_eq]
  generalize (intFromAscii ⟨true, B.width⟩ false ds 0).getD 0 = p
  obtain ⟨h1, h2⟩ := nanMagnitude_bounds B hB p
  refine ⟨?_, sgnBits_add_lt B (bounds_of_std hB).2.2 neg h2⟩
  simp only [BinFmt.isNan, sgnBits_add_mod neg h2, decide_eq_true_eq]
  exact h1

/-- C12 "converts back", digit level: if the decimal holds digits and exponent that round to the float `bits`
    (the float formatter's contract, as checked by `judgeFromFloat`), the decimal converts back to exactly `bits` -/
theorem toFloatFinite_back (B : BinFmt) (hB : B = binary32 ∨ B = binary64) (bits : Nat) (hbits : bits < 2 ^ B.width)
    (digits : List Nat) (hds : AsciiDigits digits) (e : Int) (hsig : (digits.dropWhile (· == 48)).length ≤ 17)
    (he : -99999 ≤ e ∧ e ≤ 999999) (hryu : rneDecSafe B (valOf digits) e = some (bits % B.signMask)) :
    toFloatFinite B (decide (bits ≥ B.signMask)) digits e = some bits := by
  rw [toFloatFinite_some_strong B hB _ digits hds e hsig he _ hryu, sgnBits_add_mod_self B (bounds_of_std hB).2.2 bits hbits]

theorem toFloat_finite (b : Buf) (B : BinFmt) (h : isFinite b = true) :
    toFloat b B = toFloatFinite B (isSignNegative b) (allDigits b (unbiasedExponent b).2) (unbiasedExponent b).1 := by
  unfold toFloat
  simp only [h, if_true]

theorem toFloat_infinite (b : Buf) (B : BinFmt) (h : isFinite b = false) (hi : isInfinite b = true) :
    toFloat b B = some (sgnBits B (isSignNegative b) + B.infBits) := by
  unfold toFloat
  simp only [h, hi, if_true, Bool.false_eq_true, if_false, sgnBits]

theorem toFloat_nan (b : Buf) (B : BinFmt) (h : isFinite b = false) (hi : isInfinite b = false) :
    toFloat b B = some (toFloatNan B (isSignNegative b) (decodeDeclets b).flatten) := by
  unfold toFloat
  simp only [h, hi, Bool.false_eq_true, if_false]

theorem toFloatFinite_lt (B : BinFmt) (hB : B = binary32 ∨ B = binary64) (neg : Bool) (digits : List Nat)
    (hds : AsciiDigits digits) (e : Int) (bits : Nat) (h : toFloatFinite B neg digits e = some bits) :
    bits < 2 ^ B.width ∧ (neg = true → bits ≥ B.signMask) ∧ (neg = false → bits < B.signMask) := by
  obtain ⟨m, _, hm, rfl⟩ := toFloatFinite_sound B hB neg digits hds e bits h
  obtain ⟨h1, h2⟩ := sgnBits_add_lt B (bounds_of_std hB).2.2 neg
    (Nat.lt_trans hm (infBits_lt_signMask B (pos_of_std hB).1))
  exact ⟨h2, h1.mpr, fun hn => Nat.lt_of_not_ge fun hge => by rw [h1.mp hge] at hn; cases hn⟩

/-! ## Instances: the hypotheses are satisfiable, and `1 ≤ prec` cannot be dropped -/

/-- `1.5` as the digits `0015` with exponent −1: text `15e-1` -/
example : toFloatFinite binary32 false [48, 48, 49, 53] (-1) = some 0x3FC00000 := by decide +kernel
example : floatText true [48, 48, 49, 53] (-1) = some [45, 49, 53, 101, 45, 49] := by decide +kernel
example : AsciiDigits [48, 48, 49, 53] := by intro d hd; simp at hd; omega
example : rneDecSafe binary32 (valOf [48, 48, 49, 53]) (-1) = some 0x3FC00000 := by decide +kernel
example : ([48, 48, 49, 53].dropWhile (· == 48)).length ≤ 17 ∧ (-99999 : Int) ≤ -1 ∧ (-1 : Int) ≤ 999999 := by decide
example : toFloatFinite binary32 (decide (0x3FC00000 ≥ binary32.signMask)) [49, 53] (-1) = some 0x3FC00000 :=
  toFloatFinite_back binary32 (Or.inl rfl) 0x3FC00000 (by decide) [49, 53] (by intro d hd; simp at hd; omega) (-1)
    (by decide) (by decide) (by decide +kernel)
/-- a negative NaN with a payload -/
example : toFloatNan binary32 true [49, 50, 51] = 0xFFC0007B := by decide +kernel
/-- `1e39` does not fit binary32 -/
example : rneDecSafe binary32 (valOf [49]) 39 = none := by decide +kernel
/-- with `prec = 0` the general statements fail: the oracle says "infinite" yet the model answers `some` -/
example : rneDecSafe ⟨0, 2⟩ (valOf [49]) 401 = none ∧ toFloatFinite ⟨0, 2⟩ false [49] 401 = some 3 := by
  decide +kernel

end Decstr.Proofs

#print axioms Decstr.Proofs.floatText_denotes
#print axioms Decstr.Proofs.floatText_some_iff
#print axioms Decstr.Proofs.rneDecSafe_lt
#print axioms Decstr.Proofs.toFloatFinite_eq
#print axioms Decstr.Proofs.toFloatFinite_sound
#print axioms Decstr.Proofs.toFloatFinite_overflow
#print axioms Decstr.Proofs.toFloatFinite_some_strong
#print axioms Decstr.Proofs.toFloatFinite_some
#print axioms Decstr.Proofs.toFloatNan_isNan
#print axioms Decstr.Proofs.toFloatFinite_back
#print axioms Decstr.Proofs.infinity_bits
#print axioms Decstr.Proofs.toFloatFinite_lt
