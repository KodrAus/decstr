import Decstr.Proofs.DecodeComb
/-!
# Proofs.Decode — the decoder of the model against `Spec.decode`, for every bit pattern of every width `32n`

`Spec.decode` takes the sign, the five leading combination bits and the signaling bit from places that all lie in the
last byte (`decode_last`); the six classifiers are functions of that byte (`cls_table`); `decodeCombinationFinite` is
`decodePair` of the five bits on top of the continuation (`dcf_closed`).  `decode_finite`, `decode_infinite` and
`decode_nan` put the three together; what the formatter and the converters need to know of the decoded digits and
exponent is read off the same closed form or off the specification.
-/
namespace Decstr.Proofs.DecodeAux
open Decstr.Model Decstr.Spec

theorem last_div {b : Buf} {n : Nat} (h : WF b n) (k : Nat) : b.bits / 2 ^ (8 * (4 * n - 1) + k) = b.last / 2 ^ k := by
  have h32 : 8 * (4 * n - 1 + 1) = 32 * n := by rw [Nat.sub_add_cancel (Nat.mul_pos (by decide) h.pos), ← Nat.mul_assoc]
  rw [div_pow_add, Buf.last, h.len, Buf.get_top (h32 ▸ h.lt)]

/-- the five leading combination bits are bits 6..2 of the last byte -/
theorem g5_eq {b : Buf} {n : Nat} (h : WF b n) :
    b.bits / 2 ^ (30 * n - 10) % 2 ^ (2 * n + 4 + 5) / 2 ^ (2 * n + 4) = b.last / 4 % 32 := by
  rw [Nat.pow_add, Nat.mod_mul_right_div_self, ← div_pow_add, (lastByte_layout n h.pos).2.1, last_div h]

/-- the signaling bit is bit 1 of the last byte -/
theorem sig_eq {b : Buf} {n : Nat} (h : WF b n) :
    b.bits / 2 ^ (30 * n - 10) % 2 ^ (2 * n + 4 + 5) / 2 ^ (2 * n + 4 - 1) % 2 = b.last / 2 % 2 := by
  rw [show 2 * n + 4 + 5 = 2 * n + 4 - 1 + 6 from rfl, Nat.pow_add, Nat.mod_mul_right_div_self, ← div_pow_add,
    show 30 * n - 10 + (2 * n + 4 - 1) = 8 * (4 * n - 1) + 1 from Nat.succ.inj (lastByte_layout n h.pos).2.1, last_div h,
    Nat.mod_mod_of_dvd _ (by decide : 2 ∣ 2 ^ 6)]

/-- the sign is bit 7 of the last byte -/
theorem sign_eq {b : Buf} {n : Nat} (h : WF b n) : b.bits / 2 ^ (32 * n - 1) % 2 = b.last / 128 % 2 := by
  rw [(lastByte_layout n h.pos).2.2, last_div h]

/-- the six mask tests of `combination.rs` on the last byte `x`, against its five combination bits `x[6:2]`, its
    signaling bit `x[1]` and its sign bit `x[7]` -/
theorem cls_table : ∀ x < 256,
    (x &&& FINITE_COMBINATION != FINITE_COMBINATION) = decide (x / 4 % 32 ≠ 30 ∧ x / 4 % 32 ≠ 31) ∧
    (x &&& INFINITY_COMBINATION == INFINITY) = decide (x / 4 % 32 = 30) ∧
    (x &&& NAN == NAN) = decide (x / 4 % 32 = 31) ∧
    (x &&& NAN_COMBINATION == NAN) = (decide (x / 4 % 32 = 31) && !decide (x / 2 % 2 = 1)) ∧
    (x &&& NAN_COMBINATION == NAN_COMBINATION) = (decide (x / 4 % 32 = 31) && decide (x / 2 % 2 = 1)) ∧
    (x &&& SIGN_NEGATIVE == SIGN_NEGATIVE) = decide (x / 128 % 2 = 1) :=
  forall_lt_of_all (by decide +kernel)

theorem _root_.Decstr.Proofs.isFinite_eq (b : Buf) : isFinite b = decide (b.last / 4 % 32 ≠ 30 ∧ b.last / 4 % 32 ≠ 31) :=
  (cls_table b.last (last_lt b)).1
theorem _root_.Decstr.Proofs.isInfinite_eq (b : Buf) : isInfinite b = decide (b.last / 4 % 32 = 30) :=
  (cls_table b.last (last_lt b)).2.1
theorem _root_.Decstr.Proofs.isNan_eq (b : Buf) : isNan b = decide (b.last / 4 % 32 = 31) :=
  (cls_table b.last (last_lt b)).2.2.1
theorem _root_.Decstr.Proofs.isQuietNan_eq (b : Buf) : isQuietNan b = (decide (b.last / 4 % 32 = 31) && !decide (b.last / 2 % 2 = 1)) :=
  (cls_table b.last (last_lt b)).2.2.2.1
theorem _root_.Decstr.Proofs.isSignalingNan_eq (b : Buf) : isSignalingNan b = (decide (b.last / 4 % 32 = 31) && decide (b.last / 2 % 2 = 1)) :=
  (cls_table b.last (last_lt b)).2.2.2.2.1
theorem _root_.Decstr.Proofs.isSignNegative_eq (b : Buf) : isSignNegative b = decide (b.last / 128 % 2 = 1) :=
  (cls_table b.last (last_lt b)).2.2.2.2.2

theorem isFinite_iff (b : Buf) : isFinite b = true ↔ (b.last / 4 % 32 ≠ 30 ∧ b.last / 4 % 32 ≠ 31) := by
  rw [isFinite_eq]; exact decide_eq_true_iff
theorem isInfinite_iff (b : Buf) : isInfinite b = true ↔ b.last / 4 % 32 = 30 := by
  rw [isInfinite_eq]; exact decide_eq_true_iff
theorem isNan_iff (b : Buf) : isNan b = true ↔ b.last / 4 % 32 = 31 := by
  rw [isNan_eq]; exact decide_eq_true_iff

theorem bias_eq {b : Buf} {n : Nat} (h : WF b n) : biasOf b.widthBits b.precision = ((Fmt.mk n).bias : Int) := by
  rw [Buf.widthBits_of_len h.len, Buf.precision_of_len h.len]; exact biasOf_eq n h.pos

theorem _root_.Decstr.Proofs.unbiasedExponent_eq (b : Buf) :
    unbiasedExponent b = (((decodeCombinationFinite b).1 : Int) - biasOf b.widthBits b.precision, (decodeCombinationFinite b).2) := by
  -- a bare `rfl` makes the unifier unfold `decodeCombinationFinite` on both sides
  unfold unbiasedExponent
  rfl

theorem valOf_allDigits {b : Buf} {n : Nat} (h : WF b n) (msd : Nat) :
    valOf (allDigits b msd) = msd * 1000 ^ (3 * n - 1) + trailingDecode (3 * n - 1) (b.bits % 2 ^ (30 * n - 10)) := by
  unfold allDigits
  rw [valOf_cons, decodeDeclets_flatten_length b n h, (decodeDeclets_spec b n h).2.2, Nat.add_sub_cancel,
    Nat.pow_mul]

theorem G_low (N t w : Nat) : N / 2 ^ t % 2 ^ (w + 5) % 2 ^ w = N / 2 ^ t % 2 ^ w := by
  rw [Nat.pow_add]; exact Nat.mod_mul_right_mod _ _ _

theorem _root_.Decstr.Proofs.decode_last (b : Buf) (n : Nat) (h : WF b n) :
    decode ⟨n⟩ b.bits =
      (if b.last / 4 % 32 = 30 then .inf (decide (b.last / 128 % 2 = 1))
       else if b.last / 4 % 32 = 31 then
         .nan (decide (b.last / 128 % 2 = 1)) (decide (b.last / 2 % 2 = 1))
           (trailingDecode (3 * n - 1) (b.bits % 2 ^ (30 * n - 10)))
       else
         .fin (decide (b.last / 128 % 2 = 1))
           ((decodePair (b.last / 4 % 32)).2 * 1000 ^ (3 * n - 1) + trailingDecode (3 * n - 1) (b.bits % 2 ^ (30 * n - 10)))
           (((decodePair (b.last / 4 % 32)).1 * 2 ^ (2 * n + 4) + b.bits / 2 ^ (30 * n - 10) % 2 ^ (2 * n + 4) : Nat) -
             ((Fmt.mk n).bias : Int))) := by
  rw [decode_eq, decodeFields]
  simp only [Fmt.k, Fmt.t, Fmt.w, Fmt.declets, g5_eq h, sig_eq h, sign_eq h, G_low]

/-- C02 core: what the formatter and the conversions read is what IEEE 754 assigns to the pattern -/
theorem _root_.Decstr.Proofs.decode_finite (b : Buf) (n : Nat) (h : WF b n) (hfin : isFinite b = true) :
    decode ⟨n⟩ b.bits = .fin (isSignNegative b) (valOf (allDigits b (unbiasedExponent b).2)) (unbiasedExponent b).1 := by
  obtain ⟨h30, h31⟩ := (isFinite_iff b).1 hfin
  rw [decode_last b n h, if_neg h30, if_neg h31, unbiasedExponent_eq, dcf_closed b n h, valOf_allDigits h,
    bias_eq h, isSignNegative_eq]

theorem _root_.Decstr.Proofs.decode_infinite (b : Buf) (n : Nat) (h : WF b n) (hinf : isInfinite b = true) :
    decode ⟨n⟩ b.bits = .inf (isSignNegative b) := by
  rw [decode_last b n h, if_pos ((isInfinite_iff b).1 hinf), isSignNegative_eq]

theorem _root_.Decstr.Proofs.decode_nan (b : Buf) (n : Nat) (h : WF b n) (hnan : isNan b = true) :
    decode ⟨n⟩ b.bits = .nan (isSignNegative b) (isSignalingNan b) (valOf (decodeDeclets b).flatten) := by
  have h31 := (isNan_iff b).1 hnan
  rw [decode_last b n h, if_neg (by omega), if_pos h31, isSignNegative_eq, isSignalingNan_eq,
    (decodeDeclets_spec b n h).2.2]
  simp only [h31, decide_true, Bool.true_and]

theorem _root_.Decstr.Proofs.WF.classes {b : Buf} {n : Nat} (h : WF b n) :
    (isFinite b = true ∧
      decode ⟨n⟩ b.bits = .fin (isSignNegative b) (valOf (allDigits b (unbiasedExponent b).2)) (unbiasedExponent b).1) ∨
    (isFinite b = false ∧ isInfinite b = true ∧ decode ⟨n⟩ b.bits = .inf (isSignNegative b)) ∨
    (isFinite b = false ∧ isInfinite b = false ∧ isQuietNan b = !isSignalingNan b ∧
      decode ⟨n⟩ b.bits = .nan (isSignNegative b) (isSignalingNan b) (valOf (decodeDeclets b).flatten)) := by
  by_cases h30 : b.last / 4 % 32 = 30
  · have hi := (isInfinite_iff b).2 h30
    exact .inr (.inl ⟨by rw [isFinite_eq, h30]; rfl, hi, decode_infinite b n h hi⟩)
  · by_cases h31 : b.last / 4 % 32 = 31
    · refine .inr (.inr ⟨by rw [isFinite_eq, h31]; rfl, by rw [isInfinite_eq, h31]; rfl, ?_,
        decode_nan b n h ((isNan_iff b).2 h31)⟩)
      rw [isQuietNan_eq, isSignalingNan_eq, h31]
      rfl
    · have hf := (isFinite_iff b).2 ⟨h30, h31⟩
      exact .inl ⟨hf, decode_finite b n h hf⟩

theorem _root_.Decstr.Proofs.WF.of_decode_fin {b : Buf} {n : Nat} (h : WF b n) {s : Bool} {c : Nat} {e : Int}
    (hd : decode ⟨n⟩ b.bits = .fin s c e) :
    isFinite b = true ∧ isSignNegative b = s ∧ valOf (allDigits b (unbiasedExponent b).2) = c ∧ (unbiasedExponent b).1 = e := by
  rcases h.classes with ⟨hf, hc⟩ | ⟨-, -, hc⟩ | ⟨-, -, -, hc⟩
  · rw [hc] at hd; cases hd; exact ⟨hf, rfl, rfl, rfl⟩
  · rw [hc] at hd; cases hd
  · rw [hc] at hd; cases hd

theorem g5_lt (b : Buf) : b.last / 4 % 32 < 32 := Nat.mod_lt _ (by decide)

theorem _root_.Decstr.Proofs.biased_lt_pow {b : Buf} {n : Nat} (h : WF b n) :
    (decodeCombinationFinite b).1 < 2 ^ (2 * n + 6) := by
  rw [dcf_closed b n h]
  exact fields_lt (g := 2) (decodePair_table _ (g5_lt b)).1 (Nat.mod_lt _ (Nat.two_pow_pos _))

theorem _root_.Decstr.Proofs.digitsOK {b : Buf} {n : Nat} (h : WF b n) :
    DigitsOK n ((unbiasedExponent b).2 + 48) (decodeDeclets b) := by
  obtain ⟨hl, he, -⟩ := decodeDeclets_spec b n h
  have hm := (decodePair_table _ (g5_lt b)).2.1
  rw [unbiasedExponent_eq, dcf_closed b n h]
  exact ⟨h.pos, ⟨Nat.le_add_left _ _, Nat.add_le_add_right hm 48⟩, hl, he⟩

theorem _root_.Decstr.Proofs.allDigits_ascii {b : Buf} {n : Nat} (h : WF b n) :
    (allDigits b (unbiasedExponent b).2).length = 9 * n - 2 ∧ AsciiDigits (allDigits b (unbiasedExponent b).2) := by
  have hp := h.pos
  refine ⟨?_, (digitsOK h).ascii⟩
  rw [allDigits, List.length_cons, (digitsOK h).flatten_length]
  omega

/-- a non-finite header decodes (through the finite path) to MSD 8 or 9 and an exponent above the finite range -/
theorem _root_.Decstr.Proofs.nonfinite_through_finite_path {b : Buf} {n : Nat} (h : WF b n) (hnf : isFinite b = false) :
    (unbiasedExponent b).2 ≥ 8 ∧ (unbiasedExponent b).1 ≥ (Fmt.mk n).qmax + 1 := by
  have hg : b.last / 4 % 32 ≥ 30 := by
    have := decide_eq_false_iff_not.1 (isFinite_eq b ▸ hnf)
    omega
  rw [unbiasedExponent_eq, dcf_closed b n h, bias_eq h, (decodePair_table _ (g5_lt b)).2.2.2 hg]
  exact ⟨Nat.le_add_right _ _, Int.add_one_le_of_lt (Int.not_le.1 (mt (exp_le_qmax_iff n _).1 (by omega)))⟩

theorem _root_.Decstr.Proofs.finite_exponent_range {b : Buf} {n : Nat} (h : WF b n) (hfin : isFinite b = true) :
    (Fmt.mk n).qmin ≤ (unbiasedExponent b).1 ∧ (unbiasedExponent b).1 ≤ (Fmt.mk n).qmax :=
  (decode_fin_bounds n h.pos _ _ _ _ (decode_finite b n h hfin)).2

/-- combination field: biased exponent and most significant digit, for EVERY pattern (also the 1111x headers) -/
theorem _root_.Decstr.Proofs.decodeCombinationFinite_spec (b : Buf) (n : Nat) (h : WF b n) :
    let w := 2 * n + 4
    let G := b.bits / 2 ^ (30 * n - 10) % 2 ^ (w + 5)
    let g5 := G / 2 ^ w
    decodeCombinationFinite b =
      (if g5 / 8 < 3 then (g5 / 8 * 2 ^ w + G % 2 ^ w, g5 % 8) else (g5 / 2 % 4 * 2 ^ w + G % 2 ^ w, 8 + g5 % 2)) := by
  intro w G g5
  have hG : G % 2 ^ w = b.bits / 2 ^ (30 * n - 10) % 2 ^ w := G_low _ _ _
  rw [dcf_closed b n h, hG, ← show g5 = b.last / 4 % 32 from g5_eq h]
  unfold decodePair
  split <;> rfl

/-- 32 bits, non-canonical declets (0x3FF is a second code point for 999) and a "large digit" combination `11 00 1` -/
example : WF ⟨4, 0x65ffffff⟩ 1 ∧ isFinite ⟨4, 0x65ffffff⟩ = true ∧
    unbiasedExponent ⟨4, 0x65ffffff⟩ = (-70, 9) ∧ valOf (allDigits ⟨4, 0x65ffffff⟩ 9) = 9999999 := by
  refine ⟨⟨by decide, rfl, by decide⟩, by decide +kernel, by decide +kernel, by decide +kernel⟩

/-- 64 bits (shift 2), 96 bits (aligned), 128 bits (shift 6): finite patterns with all payload bits set -/
example : WF ⟨8, 0x5dffffffffffffff⟩ 2 ∧ isFinite ⟨8, 0x5dffffffffffffff⟩ = true ∧
    unbiasedExponent ⟨8, 0x5dffffffffffffff⟩ = (241, 7) :=
  ⟨⟨by decide, rfl, by decide⟩, by decide +kernel, by decide +kernel⟩
example : WF ⟨12, 0x5dffffffffffffffffffffff⟩ 3 ∧ isFinite ⟨12, 0x5dffffffffffffffffffffff⟩ = true ∧
    unbiasedExponent ⟨12, 0x5dffffffffffffffffffffff⟩ = (1000, 7) :=
  ⟨⟨by decide, rfl, by decide⟩, by decide +kernel, by decide +kernel⟩
example : WF ⟨16, 0x5dffffffffffffffffffffffffffffff⟩ 4 ∧ isFinite ⟨16, 0x5dffffffffffffffffffffffffffffff⟩ = true ∧
    unbiasedExponent ⟨16, 0x5dffffffffffffffffffffffffffffff⟩ = (4063, 7) :=
  ⟨⟨by decide, rfl, by decide⟩, by decide +kernel, by decide +kernel⟩

/-- a non-canonical infinity (reserved and trailing bits set) and a signaling NaN with a non-canonical payload, 64 bits -/
example : WF ⟨8, 0x7Bffffffffffffff⟩ 2 ∧ isInfinite ⟨8, 0x7Bffffffffffffff⟩ = true ∧ isFinite ⟨8, 0x7Bffffffffffffff⟩ = false :=
  ⟨⟨by decide, rfl, by decide⟩, by decide +kernel, by decide +kernel⟩
example : WF ⟨8, 0xFfffffffffffffff⟩ 2 ∧ isNan ⟨8, 0xFfffffffffffffff⟩ = true ∧ isSignalingNan ⟨8, 0xFfffffffffffffff⟩ = true :=
  ⟨⟨by decide, rfl, by decide⟩, by decide +kernel, by decide +kernel⟩

/-- the declet theorems on a non-canonical code point read at an odd byte offset -/
example : readDpd ⟨4, 0x000ffc00⟩ 10 % 1024 = 0x3ff ∧ valOf (asciiOfBcd (bcdOfDpd 0x3ff)) = 999 ∧ dpdDecode 0x3ff = 999 := by
  decide +kernel

end Decstr.Proofs.DecodeAux

#print axioms Decstr.Proofs.decodeCombinationFinite_spec
#print axioms Decstr.Proofs.decode_finite
#print axioms Decstr.Proofs.decode_infinite
#print axioms Decstr.Proofs.decode_nan
#print axioms Decstr.Proofs.allDigits_ascii
#print axioms Decstr.Proofs.nonfinite_through_finite_path
#print axioms Decstr.Proofs.finite_exponent_range
#print axioms Decstr.Proofs.WF.classes
#print axioms Decstr.Proofs.biased_lt_pow
