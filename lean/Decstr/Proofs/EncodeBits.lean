import Decstr.Proofs.Bits
import Decstr.Proofs.Digits
/-!
# Proofs.EncodeBits — one declet

Table 3.4 by kernel evaluation; the flat declet reader `nextDeclet` through its equations and its value; the declet write as
one 10-bit OR at the bit offset.  Core Lean only, so that `Proofs.Chunks` can build on it.
`Decstr.Proofs.EncodeAux`, here and in `EncodeSig`, `EncodeComb`, `Encode`, holds steps of the encoder proof and is used
nowhere else; what other files build on is in `Decstr.Proofs`.
-/
namespace Decstr.Proofs
open Decstr.Model Decstr.Spec

/-- IEEE 754-2019 Table 3.4; `a b c` most significant first, `bcdOfAscii` takes them as `next_ascii_declet_rev` yields them -/
theorem dpdOfBcd_spec : ∀ a < 10, ∀ b < 10, ∀ c < 10,
    dpdOfBcd (bcdOfAscii (c + 48) (b + 48) (a + 48)) = dpdEncode (100 * a + 10 * b + c) := by
  decide +kernel

theorem nextDeclet_append3 (P : List Nat) (a b c : Nat) : nextDeclet (P ++ [a, b, c]) = ((c, b, a), P) := by
  simp [nextDeclet, List.getD_eq_getElem?_getD]

theorem nextDeclet_rest (ds : List Nat) : (nextDeclet ds).2 = ds.take (ds.length - 3) := by
  unfold nextDeclet
  simp only
  split
  · rfl
  · next h =>
    rw [show ds.length - 3 = 0 by omega, List.take_zero]
    split <;> rfl

theorem nextDeclet_short {S : List Nat} (h : S.length ≤ 3) : (nextDeclet S).2 = [] := by
  rw [nextDeclet_rest, Nat.sub_eq_zero_of_le h, List.take_zero]

theorem encodeDeclets_succ {k : Nat} {R R' : List Nat} {bit : Nat} {b : Buf} {a0 a1 a2 : Nat} (hR : R ≠ [])
    (h : nextDeclet R = ((a0, a1, a2), R')) :
    encodeDeclets (k + 1) R bit b = encodeDeclets k R' (bit + 10) (writeDpd b (dpdOfBcd (bcdOfAscii a0 a1 a2)) bit) := by
  simp [encodeDeclets, List.isEmpty_eq_false_iff.2 hR, h]

theorem back_cases (l : List Nat) (h : l ≠ []) :
    (∃ x, l = [x]) ∨ (∃ x y, l = [x, y]) ∨ (∃ x y z, l = [x, y, z]) ∨
    (∃ pre x y z, pre ≠ [] ∧ l = pre ++ [x, y, z]) := by
  rcases List.eq_nil_or_concat l with rfl | ⟨l1, z, rfl⟩
  · exact absurd rfl h
  rcases List.eq_nil_or_concat l1 with rfl | ⟨l2, y, rfl⟩
  · exact Or.inl ⟨z, rfl⟩
  rcases List.eq_nil_or_concat l2 with rfl | ⟨l3, x, rfl⟩
  · exact Or.inr (Or.inl ⟨y, z, rfl⟩)
  by_cases h3 : l3 = []
  · subst h3; exact Or.inr (Or.inr (Or.inl ⟨x, y, z, rfl⟩))
  · exact Or.inr (Or.inr (Or.inr ⟨l3, x, y, z, h3, by simp⟩))

namespace EncodeAux

theorem dpdEncode_zero : dpdEncode 0 = 0 := by decide +kernel

theorem dpdEncode_999 : dpdEncode 999 = 0x0FF := by decide +kernel

/-- the tail of `encode_bcd_declet_to_dpd`; `bit` is even (a multiple of 10), so the shifted group spans at most 16 bits -/
theorem writeDpd_eq (b : Buf) (x bit : Nat) (hx : x < 1024) (hs : bit % 2 = 0) :
    writeDpd b x bit = ⟨b.len, b.bits ||| (x <<< bit)⟩ := by
  rw [writeDpd, Buf.orAt_pair b _ (Nat.le_of_lt (Nat.mod_lt _ (by decide))) (shiftLeft_lt_two_pow (w := 10) hx (by omega)),
    Nat.div_add_mod]

theorem valOf3 (x y z : Nat) : valOf [x + 48, y + 48, z + 48] = 100 * x + 10 * y + z := by
  show 10 * (10 * (10 * 0 + (x + 48 - 48)) + (y + 48 - 48)) + (z + 48 - 48) = _
  rw [Nat.add_sub_cancel, Nat.add_sub_cancel, Nat.add_sub_cancel]; omega

theorem digit_of_ascii {a : Nat} (h : 48 ≤ a ∧ a ≤ 57) : ∃ x < 10, a = x + 48 :=
  ⟨a - 48, by omega, by omega⟩

end EncodeAux
open EncodeAux

theorem nextDeclet_spec (ds : List Nat) (hds : AsciiDigits ds) (hne : ds ≠ []) :
    ∃ x y z, x < 10 ∧ y < 10 ∧ z < 10 ∧
      (nextDeclet ds).1 = (z + 48, y + 48, x + 48) ∧
      100 * x + 10 * y + z = valOf ds % 1000 ∧
      valOf (nextDeclet ds).2 = valOf ds / 1000 := by
  -- padded with `'0'` to three digits, `ds` is `pre ++ [a, b, c]` and `nextDeclet ds = ((c, b, a), pre)`
  obtain ⟨pre, a, b, c, hnd, hv, hd⟩ : ∃ pre a b c, nextDeclet ds = ((c, b, a), pre) ∧
      valOf ds = valOf pre * 1000 + valOf [a, b, c] ∧ AsciiDigits [a, b, c] := by
    rcases back_cases ds hne with ⟨c, rfl⟩ | ⟨b, c, rfl⟩ | ⟨a, b, c, rfl⟩ | ⟨pre, a, b, c, -, rfl⟩
    · exact ⟨[], 48, 48, c, rfl, (valOf_replicate_zero_append 2 [c]).symm.trans (Nat.zero_add _).symm,
        asciiDigits_append.2 ⟨asciiDigits_replicate_zero 2, hds⟩⟩
    · exact ⟨[], 48, b, c, rfl, (valOf_zero_cons _).symm.trans (Nat.zero_add _).symm,
        asciiDigits_append.2 ⟨asciiDigits_replicate_zero 1, hds⟩⟩
    · exact ⟨[], a, b, c, rfl, (Nat.zero_add _).symm, hds⟩
    · exact ⟨pre, a, b, c, nextDeclet_append3 .., by simp [valOf_append], (asciiDigits_append.1 hds).2⟩
  -- the digits as numbers: no `omega` below sees a truncated subtraction
  obtain ⟨x, hx, rfl⟩ := digit_of_ascii (hd a (.head _))
  obtain ⟨y, hy, rfl⟩ := digit_of_ascii (hd b (.tail _ (.head _)))
  obtain ⟨z, hz, rfl⟩ := digit_of_ascii (hd c (.tail _ (.tail _ (.head _))))
  rw [valOf3] at hv
  obtain ⟨hdiv, hmod⟩ := (Nat.div_mod_unique (Nat.succ_pos 999)).2
    ⟨(by rw [hv, Nat.add_comm, Nat.mul_comm] : 100 * x + 10 * y + z + 1000 * valOf pre = valOf ds), by omega⟩
  exact ⟨x, y, z, hx, hy, hz, congrArg Prod.fst hnd, hmod.symm, by rw [hnd]; exact hdiv.symm⟩

theorem EncodeAux.nextDeclet_dpd (ds : List Nat) (hds : AsciiDigits ds) (hne : ds ≠ []) :
    dpdOfBcd (bcdOfAscii (nextDeclet ds).1.1 (nextDeclet ds).1.2.1 (nextDeclet ds).1.2.2)
      = dpdEncode (valOf ds % 1000) := by
  obtain ⟨x, y, z, hx, hy, hz, h1, h2, _⟩ := nextDeclet_spec ds hds hne
  rw [h1, ← h2]
  exact dpdOfBcd_spec x hx y hy z hz

theorem encodeDeclets_rest (k : Nat) (ds : List Nat) (bit : Nat) (b : Buf) :
    (encodeDeclets k ds bit b).2 = ds.take (ds.length - 3 * k) := by
  induction k generalizing ds bit b with
  | zero => exact (List.take_length (l := ds)).symm
  | succ k ih =>
    rw [encodeDeclets]
    split
    · next h => rw [List.isEmpty_iff.1 h, List.take_nil]
    · show (encodeDeclets k (nextDeclet ds).2 _ _).2 = _
      rw [ih, nextDeclet_rest, List.take_take, List.length_take, Nat.min_eq_left (Nat.sub_le _ _),
        Nat.min_eq_left (Nat.sub_le _ _), Nat.sub_sub, Nat.mul_succ, Nat.add_comm]

end Decstr.Proofs

#print axioms Decstr.Proofs.dpdOfBcd_spec
#print axioms Decstr.Proofs.EncodeAux.writeDpd_eq
