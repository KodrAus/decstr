import Decstr.Proofs.DecodeDpd
import Decstr.Model.Exec
/-!
# Proofs.DecodeComb — `decode_combination_finite`: closed forms of the two byte iterators

Both iterators read, byte by byte, the `K` bits of the buffer that start at bit `8·di + s` and end two bits into the
last byte, and put the two leading exponent bits `e` (recovered from the combination field) on top of them:
the result is `e · 2^K + N / 2^(8·di+s) % 2^K`, with `K = 8j + 10 − s` after `j` whole bytes.  Nothing in this depends
on the width; `dcf_closed` puts the numbers of a `32n`-bit buffer in.
-/
namespace Decstr.Proofs.DecodeAux
open Decstr.Model

theorem and3 (c : Nat) : c &&& 3 = c % 4 := Nat.and_two_pow_sub_one_eq_mod c 2

theorem last_lt (b : Buf) : b.last < 256 := Buf.get_lt _ _

/-- aligned iterator (`s = 0`): the exponent's top byte then holds four bits, so `e` is shifted by `4 − 2` -/
theorem readExpAligned_closed (b : Buf) (e : Nat) (he : e < 4) (j : Nat) :
    ∀ di, di + j = b.len - 1 →
      readExpAligned b ((e <<< 2) % 256) (j + 1) di =
        e * 2 ^ (8 * j + 2) + b.bits / 2 ^ (8 * di) % 2 ^ (8 * j + 2) := by
  induction j with
  | zero =>
    intro di h
    obtain rfl : di = b.len - 1 := h
    obtain ⟨h1, h1lt⟩ := or_shiftLeft_byte (a := b.get (b.len - 1) % 4) (k := 2) (m := 2) (Nat.mod_lt _ (by decide)) he
      (by decide)
    simp only [readExpAligned, Nat.lt_irrefl, if_false, Nat.mul_zero, Nat.add_zero, Nat.zero_add, and3]
    rw [h1, Nat.mod_eq_of_lt (Nat.lt_trans h1lt (by decide)), Buf.get_eq, Nat.mod_mod_of_dvd _ (by decide : 4 ∣ 256)]
  | succ j ih =>
    intro di h
    rw [readExpAligned]
    simp only [(h ▸ Nat.lt_add_of_pos_right (Nat.succ_pos j) : di < b.len - 1), if_true]
    rw [ih (di + 1) (by rw [← h, Nat.add_assoc, Nat.add_comm 1 j]), Buf.get_eq, div_pow8_succ, Nat.mul_succ 8 j,
      Nat.add_right_comm _ 8 2]
    exact prepend_byte _ _ _

/-- unaligned iterator at bit offset `s`: after `j` bytes taken across byte boundaries come the last `r = 10 − s` bits; `e`,
shifted by `o` within byte `maxEi` of the result, lands directly above them, in the same byte (`maxEi = ei + j`) or, for
`s = 2`, in one more.  `x` is fuel the iterator does not use: the caller passes one byte more than are yielded. -/
theorem readExpShifted_closed (b : Buf) (e o s r maxEi : Nat) (he : e < 4) (hr : r + s = 10) (hs : s < 8) (hr8 : r ≤ 8)
    (ho : o ≤ 6) (j : Nat) :
    ∀ di ei x, di + 1 + j = b.len - 1 → 8 * maxEi + o = 8 * (ei + j) + r →
      readExpShifted b ((e <<< o) % 256) s maxEi (j + 2 + x) di ei =
        e * 2 ^ (8 * j + r) + b.bits / 2 ^ (8 * di + s) % 2 ^ (8 * j + r) := by
  induction j with
  | zero =>
    intro di ei x h hpos
    obtain rfl : r = 8 - s + 2 := (Nat.eq_sub_of_add_eq hr).trans (Nat.sub_add_comm (m := 2) (Nat.le_of_lt hs))
    have hL : b.len - 1 = di + 1 := h.symm
    rw [Nat.zero_add, Nat.add_comm 2 x, readExpShifted]
    simp only [hL, Nat.lt_irrefl, if_false, if_true]
    rw [readExpShifted]
    simp only [hL, Nat.not_succ_lt_self, Nat.succ_ne_self, if_false, and3, Nat.mul_zero, Nat.zero_add]
    -- the `10 − s` bits of `b` in these two bytes
    have hbits : b.bits / 2 ^ (8 * di + s) % 2 ^ (8 - s + 2) = b.get (di + 1) % 4 * 2 ^ (8 - s) + b.get di >>> s := by
      rw [Buf.get_succ, Buf.get_eq, Nat.mod_mod_of_dvd _ (by decide : 4 ∣ 256), div_pow_add,
        bits_across_byte _ _ _ (Nat.le_of_lt hs), Nat.shiftRight_eq_div_pow]
    obtain ⟨h1, h1lt⟩ := or_shiftLeft_byte (c := b.get (di + 1) % 4) (m := 2)
      (shiftRight_byte_lt (Buf.get_lt b di) (Nat.le_of_lt hs)) (Nat.mod_lt _ (by decide)) hr8
    rw [hbits]
    by_cases hm : maxEi = ei
    · subst hm
      obtain rfl : o = 8 - s + 2 := Nat.add_left_cancel hpos
      have ho2 : 8 - s + 2 + 2 ≤ 8 := Nat.add_le_add_right ho 2
      obtain ⟨h2, h2lt⟩ := or_shiftLeft_byte (m := 2) h1lt he ho2
      rw [if_pos rfl, if_neg (Nat.succ_ne_self _), ← Nat.or_assoc, h1, h2,
        Nat.mod_eq_of_lt (Nat.lt_of_lt_of_le h2lt (Nat.pow_le_pow_right (by decide) ho2)), Nat.mul_zero, Nat.add_zero]
    · obtain ⟨rfl, rfl, rfl⟩ : maxEi = ei + 1 ∧ s = 2 ∧ o = 0 := by omega
      rw [if_neg (Nat.succ_ne_self _).symm, if_pos rfl, h1, Nat.mod_eq_of_lt h1lt, Nat.shiftLeft_zero, Nat.mod_mod,
        Nat.mod_eq_of_lt (Nat.lt_trans he (by decide)), Nat.add_comm, Nat.mul_comm 256]
  | succ j ih =>
    intro di ei x h hpos
    have h1 : di + 1 < b.len - 1 := h ▸ Nat.lt_add_of_pos_right (Nat.succ_pos j)
    rw [Nat.add_right_comm j 1 2, Nat.add_right_comm (j + 2) 1 x, readExpShifted]
    simp only [h1, if_true]
    rw [ih (di + 1) (ei + 1) x (by rw [← h, Nat.add_assoc (di + 1), Nat.add_comm 1 j])
        (by rw [hpos, Nat.add_assoc ei, Nat.add_comm 1 j]), Buf.window b di hs,
      Nat.mod_mod_of_dvd _ (Nat.pow_dvd_pow 2 (Nat.le_sub_of_add_le (Nat.add_le_add_left (Nat.le_of_lt hs) 8))), Nat.mul_succ 8 di, Nat.add_right_comm _ 8 s,
      div_pow_add _ _ 8, Nat.mul_succ 8 j, Nat.add_right_comm _ 8 r]
    exact prepend_byte _ _ _

/-- the code's bit picking against the rule of §3.5.2, on the five combination bits `c[6:2]` -/
theorem mseMsdOf_table : ∀ c < 256, Exec.mseMsdOf c = decodePair (c / 4 % 32) ∧ (Exec.mseMsdOf c).1 < 4 :=
  forall_lt_of_all (by decide +kernel)

/-- the pure `decodeCombinationFinite` has the pair `(mse, msd)` inline; `Exec.mseMsdOf` is that expression under a name -/
theorem _root_.Decstr.Proofs.dcf_unfold (b : Buf) :
    decodeCombinationFinite b =
      (if b.trailingBits % 8 = 0 then
          readExpAligned b (((Exec.mseMsdOf b.last).1 <<< ((msExponentOffset b.exponentBits).1 - 2)) % 256)
            (b.len - 1 - b.trailingBits / 8 + 1) (b.trailingBits / 8)
        else
          readExpShifted b (((Exec.mseMsdOf b.last).1 <<< ((msExponentOffset b.exponentBits).1 - 2)) % 256)
            (b.trailingBits % 8) (msExponentOffset b.exponentBits).2
            (b.len - 1 - b.trailingBits / 8 + 2) (b.trailingBits / 8) 0,
       (Exec.mseMsdOf b.last).2) := by
  rfl

/-- `decode_combination_finite` for every layout in which the decoder is right.
Of the offsets only `s = 1` and `s = 3` are excluded: at `s = 1` the reader shifts the two low bits of the last byte by 7
and loses one as `u8`; at `s = 3` the exponent's top byte holds one bit and `off − 2` underflows (`msExponentOffset_spec`).
No width `32n` has an odd `s`; `5` and `7` happen to work. -/
theorem dcf_layout (b : Buf) (di s j r : Nat) (hs : s < 8) (hs1 : s ≠ 1) (hs3 : s ≠ 3) (hr : r + s = 10)
    (ht : b.trailingBits = 8 * di + s) (hx : b.exponentBits = 8 * j + r + 2) (hlen : b.len = di + j + 2) :
    decodeCombinationFinite b =
      ((Exec.mseMsdOf b.last).1 * 2 ^ (8 * j + r) + b.bits / 2 ^ (8 * di + s) % 2 ^ (8 * j + r),
       (Exec.mseMsdOf b.last).2) := by
  have hd : (8 * di + s) / 8 = di := by rw [Nat.mul_add_div (by decide), Nat.div_eq_of_lt hs]; rfl
  have hm : b.len - 1 = di + (j + 1) := by rw [hlen]; rfl
  rw [dcf_unfold, ht, hx, Nat.mul_add_mod, Nat.mod_eq_of_lt hs, hd, hm, Nat.add_sub_cancel_left]
  clear ht hx hd hlen  -- used up; every `omega` below would carry them
  obtain ⟨h2, h8, hpos⟩ := msExponentOffset_spec (x := 8 * j + r + 2) (Nat.succ_pos _) (by omega)
  congr 1
  generalize (msExponentOffset (8 * j + r + 2)).1 = off at h2 h8 hpos ⊢
  generalize (msExponentOffset (8 * j + r + 2)).2 = maxEi at hpos ⊢
  have he := (mseMsdOf_table b.last (last_lt b)).2
  generalize (Exec.mseMsdOf b.last).1 = e at he ⊢
  obtain ⟨o, rfl⟩ : ∃ o, off = o + 2 := ⟨off - 2, (Nat.sub_add_cancel h2).symm⟩
  rw [Nat.add_sub_cancel]
  split
  · next h0 =>
    subst h0
    obtain rfl : r = 10 := hr
    obtain rfl : o = 2 := by omega
    rw [readExpAligned_closed b e he _ _ hm.symm, Nat.mul_succ]
    rfl
  · next h0 =>
    have hs2 : 2 ≤ s := Nat.lt_of_le_of_ne (Nat.pos_of_ne_zero h0) (Ne.symm hs1)
    exact readExpShifted_closed b e o s r maxEi he hr hs (Nat.le_of_add_le_add_right (hr ▸ Nat.add_le_add_left hs2 r))
      (Nat.le_of_add_le_add_right h8) j _ 0 1 (by rw [hm, Nat.add_assoc, Nat.add_comm 1 j])
      (by rw [Nat.zero_add]; exact Nat.add_right_cancel (m := 2) hpos)

theorem dcf_closed (b : Buf) (n : Nat) (h : WF b n) :
    decodeCombinationFinite b =
      ((decodePair (b.last / 4 % 32)).1 * 2 ^ (2 * n + 4) + b.bits / 2 ^ (30 * n - 10) % 2 ^ (2 * n + 4),
       (decodePair (b.last / 4 % 32)).2) := by
  obtain ⟨di, s, j, r, hs, hs2, hr, ht, hlen, hw⟩ := layout32 n h.pos
  rw [← (mseMsdOf_table b.last (last_lt b)).1, ht, hw]
  exact dcf_layout b di s j r hs (by rintro rfl; cases hs2) (by rintro rfl; cases hs2) hr
    (by rw [Buf.trailingBits_of_len h.len, ht]) (by rw [Buf.exponentBits_of_len h.len, ← hw]) (by rw [h.len, hlen])

end Decstr.Proofs.DecodeAux

#print axioms Decstr.Proofs.DecodeAux.readExpAligned_closed
#print axioms Decstr.Proofs.DecodeAux.readExpShifted_closed
#print axioms Decstr.Proofs.DecodeAux.dcf_closed
