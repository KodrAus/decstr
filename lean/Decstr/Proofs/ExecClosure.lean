import Decstr.Proofs.ExecEncodeApi
import Decstr.Proofs.ExecDecodeApi
import Decstr.Props.C03
import Decstr.Props.C12
import Decstr.Props.C14
/-!
# Proofs.ExecClosure — every decimal the library itself produces is a well-formed buffer its type can hold

The fields of the public types are private: a value is made by `from_le_bytes` (an array of the right length),
`try_from_le_bytes` (length-tested), a parse, a conversion from an integer or a binary float, or is one of the constants.
`Props/C05x.lean` proves the operations safe on every well-formed buffer the type can hold (`Arg`); here: the producers
only produce such buffers, so the safety of one operation carries over to any sequence of operations.
-/
namespace Decstr.Proofs.Exec
open Decstr.Model Decstr.Model.Exec Decstr.Spec

/-- a well-formed buffer of a width the type `T` can hold -/
def Held (T : Ty) (b : Buf) : Prop := ∃ n, WF b n ∧ (T.expIsI32 = true → n ≤ 5)

/-- the body of `tryParseStr` / `tryParse` (met by unfolding) answers `.ok` only through an accepted parse -/
theorem fromParsed_of_lift {T : Ty} {r : Except ParseErr Parsed} {b : Buf}
    (h : (match r with
      | .ok p => liftOverflow (fromParsed T p)
      | .error e => .error (.parse e)) = .ok b) : ∃ p, r = .ok p ∧ fromParsed T p = .ok b := by
  cases r with
  | error e => cases h
  | ok p =>
    dsimp only at h
    cases hf : fromParsed T p with
    | error e => rw [hf] at h; cases h
    | ok b' => rw [hf] at h; cases h; exact ⟨p, rfl, hf⟩

theorem tryParseStr_held {T : Ty} {input : List Nat} {b : Buf} (h : tryParseStr T input = .ok b) : Held T b := by
  cases hp : Spec.parse input with
  | none => obtain ⟨e, he, -⟩ := Props.C06.C06_tryParseStr_reject T input hp; rw [he] at h; cases h
  | some num => obtain ⟨n, hwf, -, -, -, hh⟩ := Props.C03.stored T input num hp b h; exact ⟨n, hwf, hh⟩

/-- whatever the source does, an accepted fragment list is accepted from an honest source too (`parseFmt_ok_none`), and
    that answer is the string entry point's on the concatenation (`C14_tryParse`) -/
theorem tryParse_held {T : Ty} {frags : List (List Nat)} {fault : Fault} {b : Buf}
    (h : tryParse T frags fault = .ok b) : Held T b := by
  obtain ⟨p, hp, hf⟩ := fromParsed_of_lift h
  have h0 : tryParse T frags .none = .ok b := by
    show (match parseFmt T.textKind frags .none with | .ok p => _ | .error e => _) = _
    rw [parseFmt_ok_none hp]; simp [hf, liftOverflow]
  rcases C14_tryParse T frags with e | ⟨e, -⟩
  · exact tryParseStr_held (e ▸ h0)
  · rw [e] at h0; cases h0

theorem fromText_held {T : Ty} {inf : Bool} {text : List Nat} (hstart : startsWithDigitOrMinusDigit text = true) {b : Buf}
    (h : fromText T inf text = .ok b) : Held T b :=
  tryParseStr_held (Props.C06.fromText_ok hstart h)

theorem fromInt_held {T : Ty} {I : IntTy} {v : Int} {b : Buf} (h : fromInt T I v = .ok b) : Held T b :=
  fromText_held (Props.C10.starts v) h

theorem fromFloat_held {T : Ty} {B : BinFmt} {bits : Nat} {ryu : List Nat}
    (hstart : startsWithDigitOrMinusDigit ryu = true) {b : Buf} (h : fromFloat T B bits ryu = .ok b) : Held T b := by
  cases hn : B.isNan bits with
  | true =>
    rw [Props.C12.C12_nan T B bits ryu hn] at h; cases h
    exact ⟨_, .encodeNan (Props.C09.baseN_pos T) _ _ (Nat.pow_pos (by decide)),
      Ty.le_five_of_capN fun _ => Props.C09.baseN_le_capN⟩
  | false =>
    cases hi : B.isInf bits with
    | true =>
      rw [Props.C12.C12_inf T B bits ryu hi] at h; cases h
      exact ⟨_, .encodeInf (Props.C09.baseN_pos T) _, Ty.le_five_of_capN fun _ => Props.C09.baseN_le_capN⟩
    | false =>
      rw [Props.C12.fromFloat_finite T B bits ryu hn hi] at h
      exact fromText_held hstart h

theorem tryFromLeBytes_held {T : Ty} {bytes : List Nat} (hb : ∀ x ∈ bytes, x < 256) {b : Buf}
    (h : tryFromLeBytes T bytes = .ok b) : Held T b := by
  obtain ⟨hh, rfl⟩ := Props.C16.tryFromLeBytes_ok h
  obtain ⟨n, H⟩ := HeldBytes.of hh hb
  exact ⟨n, H.wf, H.printable⟩

/-- no operation on a held value reaches a panic site; 8589934588 = 4 · `i32::MAX`: with `b.len = 4n` it is `toTextC_eq`'s
    `9 * n ≤ 2147483647` -/
theorem held_ops {T : Ty} {c : Bool} {b : Buf} (h : Held T b) :
    classifyC c b = .ok (classify b) ∧
    (∀ I, toIntC T c b I = .ok (toInt T b I)) ∧
    (∀ B, toFloatC T c b B = .ok (toFloat b B)) ∧
    (9 * b.len ≤ 8589934588 → toTextC T c b = .ok (toText T b)) := by
  obtain ⟨n, hwf, hT⟩ := h
  exact ⟨classifyC_eq hwf.len_pos, toIntC_eq hwf hT, toFloatC_eq hwf hT,
    fun hsz => toTextC_eq hwf hT (by rw [hwf.len] at hsz; omega)⟩

end Decstr.Proofs.Exec

#print axioms Decstr.Proofs.Exec.tryParseStr_held
#print axioms Decstr.Proofs.Exec.tryParse_held
#print axioms Decstr.Proofs.Exec.fromInt_held
#print axioms Decstr.Proofs.Exec.fromFloat_held
#print axioms Decstr.Proofs.Exec.held_ops
