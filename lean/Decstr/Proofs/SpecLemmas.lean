import Decstr.Proofs.Bits
/-!
# Proofs.SpecLemmas — facts about the specification itself

The IEEE 754 encoder and decoder of `Decstr.Spec.Basic` are inverse on canonical data, every pattern decodes inside its
format, and canonicalisation is idempotent: what makes "bytes = Spec.encodeFin …" a meaningful claim.
-/
namespace Decstr.Proofs
open Decstr.Spec

/-! ## DPD tables (IEEE 754-2019 Tables 3.3, 3.4) -/

/-- Table 3.4 followed by Table 3.3, one sweep over the 1000 three-digit groups -/
theorem dpd_table : ∀ v < 1000, dpdEncode v < 1024 ∧ dpdDecode (dpdEncode v) = v :=
  forall_lt_of_all (by decide +kernel)
theorem dpd_roundtrip (v : Nat) (h : v < 1000) : dpdDecode (dpdEncode v) = v := (dpd_table v h).2
theorem dpdEncode_lt (v : Nat) (h : v < 1000) : dpdEncode v < 1024 := (dpd_table v h).1

theorem dbit_le (x i : Nat) : dbit x i ≤ 1 := Nat.le_of_lt_succ (Nat.mod_lt _ (by decide))

/-- every code point, canonical or not (and any number at all), decodes to three digits -/
theorem dpdDecode_lt (x : Nat) : dpdDecode x < 1000 := by
  have lo {a b c : Nat} (ha : a ≤ 1) (hb : b ≤ 1) (hc : c ≤ 1) : 4 * a + 2 * b + c ≤ 9 := by omega
  have hi {c : Nat} (hc : c ≤ 1) : 8 + c ≤ 9 := by omega
  have lt {d1 d2 d3 : Nat} (h1 : d1 ≤ 9) (h2 : d2 ≤ 9) (h3 : d3 ≤ 9) : 100 * d1 + 10 * d2 + d3 < 1000 := by omega
  unfold dpdDecode
  simp only
  -- with the bits a variable `split` has less to abstract
  have h := dbit_le x
  generalize dbit x = b at h ⊢
  -- in each row of Table 3.3 a digit is `8 + c` (then `hi`) or `4a + 2b + c` (then `lo`) of bits
  split <;> simp only <;> refine lt ?_ ?_ ?_ <;> first | exact hi (h _) | exact lo (h _) (h _) (h _)

theorem trailingEncode_lt (j c : Nat) : trailingEncode j c < 1024 ^ j := by
  induction j generalizing c with
  | zero => simp [trailingEncode]
  | succ j ih =>
    rw [trailingEncode, Nat.pow_succ, Nat.add_comm, Nat.mul_comm 1024]
    exact mul_add_lt (ih _) (dpdEncode_lt _ (Nat.mod_lt _ (by decide)))

theorem trailingDecode_succ (j T : Nat) :
    trailingDecode (j + 1) T = dpdDecode (T % 1024) + 1000 * trailingDecode j (T / 1024) := rfl

theorem trailingDecode_lt (j T : Nat) : trailingDecode j T < 1000 ^ j := by
  induction j generalizing T with
  | zero => simp [trailingDecode]
  | succ j ih =>
    rw [trailingDecode_succ, Nat.pow_succ, Nat.add_comm, Nat.mul_comm 1000]
    exact mul_add_lt (ih _) (dpdDecode_lt _)

theorem trailing_roundtrip (j c : Nat) : trailingDecode j (trailingEncode j c) = c % 1000 ^ j := by
  induction j generalizing c with
  | zero => simp [trailingDecode, Nat.mod_one]
  | succ j ih =>
    have h1 := dpdEncode_lt (c % 1000) (Nat.mod_lt _ (by decide))
    rw [trailingEncode, trailingDecode_succ, Nat.add_mul_mod_self_left, Nat.mod_eq_of_lt h1,
      Nat.add_mul_div_left _ _ (by decide), Nat.div_eq_of_lt h1, Nat.zero_add, dpd_roundtrip _ (Nat.mod_lt _ (by decide)), ih,
      Nat.pow_succ, Nat.mul_comm (1000 ^ j) 1000, Nat.mod_mul]

/-! ## The format's arithmetic

The fields tile the `32n` bits, the trailing significand holds all digits but the first, and the `3·2^w` biased exponents
(`Fmt.elimit`) are exactly `qmin … qmax`. -/

theorem pow1024 (j : Nat) : 1024 ^ j = 2 ^ (10 * j) := by
  rw [Nat.pow_mul]

theorem pow1000 (j : Nat) : 1000 ^ j = 10 ^ (3 * j) := by
  rw [Nat.pow_mul]

theorem fmt_t (n : Nat) : (Fmt.mk n).t = 10 * (Fmt.mk n).declets := by
  simp only [Fmt.t, Fmt.declets, Nat.mul_sub, ← Nat.mul_assoc]
theorem fmt_k (n : Nat) (hn : 0 < n) : (Fmt.mk n).k - 1 = (Fmt.mk n).t + ((Fmt.mk n).w + 5) := by
  simp only [Fmt.k, Fmt.t, Fmt.w]; omega
theorem fmt_p (n : Nat) (hn : 0 < n) : (Fmt.mk n).p = 3 * (Fmt.mk n).declets + 1 := by
  simp only [Fmt.p, Fmt.declets]; omega
theorem fmt_emax (n : Nat) : (Fmt.mk n).emax = 3 * 2 ^ ((Fmt.mk n).w - 1) := by
  simp only [Fmt.emax, Fmt.w]; congr 2

theorem ten_pow_p (n : Nat) (hn : 0 < n) : 10 ^ (Fmt.mk n).p = 10 * 1000 ^ (Fmt.mk n).declets := by
  rw [fmt_p n hn, Nat.pow_succ, pow1000, Nat.mul_comm]

theorem trailingEncode_lt_t (n c : Nat) : trailingEncode (Fmt.mk n).declets c < 2 ^ (Fmt.mk n).t := by
  rw [fmt_t n, ← pow1024]; exact trailingEncode_lt _ _

/-- no `0 < n` is needed: `emax + p ≥ 2` always -/
theorem elimit_eq (n : Nat) : ((3 * 2 ^ (Fmt.mk n).w : Nat) : Int) = (Fmt.mk n).qmax + (Fmt.mk n).bias + 1 := by
  have hw : (Fmt.mk n).w = ((Fmt.mk n).w - 1) + 1 := rfl
  have he := fmt_emax n
  have hX := Nat.two_pow_pos ((Fmt.mk n).w - 1)
  simp only [Fmt.qmax, Fmt.bias]
  rw [hw, Nat.pow_succ]
  generalize 2 ^ ((Fmt.mk n).w - 1) = X at *
  omega

/-- `E < 3·2^w`: the two leading exponent bits are not `11` -/
theorem exp_le_qmax_iff (n : Nat) (E : Nat) :
    (E : Int) - ((Fmt.mk n).bias : Int) ≤ (Fmt.mk n).qmax ↔ E < 3 * 2 ^ (2 * n + 4) := by
  have h := elimit_eq n
  have e : (E < 3 * 2 ^ (2 * n + 4)) ↔ (E : Int) < ((3 * 2 ^ (Fmt.mk n).w : Nat) : Int) := Int.ofNat_lt.symm
  rw [e, h]
  omega

theorem qmin_le_qmax (n : Nat) : (Fmt.mk n).qmin ≤ (Fmt.mk n).qmax := by
  have := elimit_eq n
  have : 0 < 3 * 2 ^ (Fmt.mk n).w := Nat.mul_pos (by decide) (Nat.two_pow_pos _)
  simp only [Fmt.qmin]
  omega

/-! ## `decode` as a function of the three fields

`Spec.decode` cuts its argument into sign, combination field `G` and trailing significand `T` and never looks at the
number again; of the format it uses `w`, the declet count and the bias.  `decodeFields` is that second half with these
six as arguments, so that what the encoders' fields decode to is proved over variables. -/

/-- exponent top bits and most significant digit from the five leading combination bits -/
def decodePair (g5 : Nat) : Nat × Nat := if g5 / 8 < 3 then (g5 / 8, g5 % 8) else (g5 / 2 % 4, 8 + g5 % 2)

/-- the five leading combination bits the encoder builds -/
def encodePair (etop msd : Nat) : Nat := if msd < 8 then etop * 8 + msd else 24 + etop * 2 + (msd - 8)

/-- the 30 finite combinations (§3.5.2): three exponent prefixes by ten leading digits -/
theorem decodePair_encodePair : ∀ etop ≤ 2, ∀ msd < 10,
    encodePair etop msd < 30 ∧ decodePair (encodePair etop msd) = (etop, msd) := by decide +kernel

/-- all 32 combinations; the two non-finite ones for what the model's finite path makes of them -/
theorem decodePair_table : ∀ g < 32, (decodePair g).1 < 4 ∧ (decodePair g).2 ≤ 9 ∧ (g < 30 → (decodePair g).1 ≤ 2) ∧
    (30 ≤ g → decodePair g = (3, 8 + g % 2)) := by
  decide +kernel

def decodeFields (w j bias : Nat) (neg : Bool) (G T : Nat) : Datum :=
  if G / 2 ^ w = 30 then .inf neg
  else if G / 2 ^ w = 31 then .nan neg (decide (G / 2 ^ (w - 1) % 2 = 1)) (trailingDecode j T)
  else .fin neg ((decodePair (G / 2 ^ w)).2 * 1000 ^ j + trailingDecode j T)
    (((decodePair (G / 2 ^ w)).1 * 2 ^ w + G % 2 ^ w : Nat) - bias)

theorem decode_eq (f : Fmt) (N : Nat) :
    decode f N = decodeFields f.w f.declets f.bias (decide (N / 2 ^ (f.k - 1) % 2 = 1))
      (N / 2 ^ f.t % 2 ^ (f.w + 5)) (N % 2 ^ f.t) := by
  unfold decode decodeFields decodePair
  simp only

theorem decode_pack (n : Nat) (hn : 0 < n) (neg : Bool) (G T : Nat) (hG : G < 2 ^ ((Fmt.mk n).w + 5))
    (hT : T < 2 ^ (Fmt.mk n).t) :
    decode ⟨n⟩ (signBit ⟨n⟩ neg + G * 2 ^ (Fmt.mk n).t + T)
      = decodeFields (Fmt.mk n).w (Fmt.mk n).declets (Fmt.mk n).bias neg G T ∧
    signBit ⟨n⟩ neg + G * 2 ^ (Fmt.mk n).t + T < 2 ^ (32 * n) := by
  have hk := fmt_k n hn
  have hk1 : 32 * n = (Fmt.mk n).t + ((Fmt.mk n).w + 5 + 1) := by simp only [Fmt.t, Fmt.w]; omega
  rw [decode_eq]
  generalize (Fmt.mk n).t = t at *
  generalize (Fmt.mk n).w + 5 = g at *
  -- the sign bit and `G` form one `g + 1`-bit field `A` above `T`
  have hA : (if neg then 1 else 0) * 2 ^ g + G < 2 ^ (g + 1) := fields_lt (by cases neg <;> decide) hG
  have hN : signBit ⟨n⟩ neg + G * 2 ^ t + T = ((if neg then 1 else 0) * 2 ^ g + G) * 2 ^ t + T := by
    rw [signBit, hk, Nat.pow_add, Nat.add_mul, Nat.mul_assoc, Nat.mul_comm (2 ^ t)]; cases neg <;> simp
  obtain ⟨a1, a2⟩ := field_split _ t T hT
  obtain ⟨b1, b2⟩ := field_split (if neg then 1 else 0) g G hG
  rw [hk, div_pow_add, hN, a1, a2, b1, b2, hk1]
  exact ⟨by cases neg <;> rfl, fields_lt hA hT⟩

theorem decodeFields_fin {w etop msd lo : Nat} (j bias : Nat) (neg : Bool) (T : Nat) (he : etop ≤ 2) (hm : msd < 10)
    (hlo : lo < 2 ^ w) :
    decodeFields w j bias neg (encodePair etop msd * 2 ^ w + lo) T =
      .fin neg (msd * 1000 ^ j + trailingDecode j T) ((etop * 2 ^ w + lo : Nat) - bias) := by
  obtain ⟨h30, hp⟩ := decodePair_encodePair etop he msd hm
  obtain ⟨h1, h2⟩ := field_split (encodePair etop msd) w lo hlo
  rw [decodeFields, h1, h2, if_neg (by omega), if_neg (by omega), hp]

theorem decodeFields_inf (w j bias : Nat) (neg : Bool) (T : Nat) :
    decodeFields w j bias neg (30 * 2 ^ w) T = .inf neg := by
  rw [decodeFields, Nat.mul_div_cancel _ (Nat.two_pow_pos w), if_pos rfl]

theorem decodeFields_nan {w : Nat} (j bias : Nat) (hw : 0 < w) (neg sig : Bool) (T : Nat) :
    decodeFields w j bias neg ((62 + if sig then 1 else 0) * 2 ^ (w - 1)) T = .nan neg sig (trailingDecode j T) := by
  have hp : 0 < 2 ^ (w - 1) := Nat.two_pow_pos _
  have hpw : 2 ^ w = 2 ^ (w - 1) * 2 := by rw [← Nat.pow_succ]; congr 1; omega
  rw [decodeFields, Nat.mul_div_cancel _ hp, hpw, ← Nat.div_div_eq_div_mul, Nat.mul_div_cancel _ hp]
  cases sig <;> rfl

theorem decodeFields_fin_bounds {w j bias : Nat} {neg : Bool} {G T : Nat} (hG : G < 2 ^ (w + 5)) {s : Bool} {c : Nat}
    {e : Int} (h : decodeFields w j bias neg G T = .fin s c e) :
    c < 10 * 1000 ^ j ∧ 0 ≤ e + bias ∧ e + bias < ((3 * 2 ^ w : Nat) : Int) := by
  have hw : 0 < 2 ^ w := Nat.two_pow_pos _
  have hg5 : G / 2 ^ w < 32 := by
    rw [Nat.div_lt_iff_lt_mul hw, Nat.mul_comm]; rw [Nat.pow_add] at hG; exact hG
  unfold decodeFields at h
  split at h
  · cases h
  · split at h
    · cases h
    · rename_i h30 h31
      obtain ⟨-, k2, k1, -⟩ := decodePair_table _ hg5
      have k1 := k1 (by omega)
      injection h with _ hc he
      subst hc he
      rw [Int.sub_add_cancel]
      exact ⟨mul_add_lt (Nat.lt_succ_of_le k2) (trailingDecode_lt j T), Int.natCast_nonneg _,
        Int.ofNat_lt.2 (mul_add_lt (Nat.lt_succ_of_le k1) (Nat.mod_lt _ hw))⟩

theorem decode_encodeFin (n : Nat) (hn : 0 < n) (neg : Bool) (c : Nat) (e : Int)
    (hc : c < 10 ^ (Fmt.mk n).p) (he : (Fmt.mk n).qmin ≤ e ∧ e ≤ (Fmt.mk n).qmax) :
    decode ⟨n⟩ (encodeFin ⟨n⟩ neg c e) = .fin neg c e ∧ encodeFin ⟨n⟩ neg c e < 2 ^ (32 * n) := by
  have h0 : 0 ≤ e + (Fmt.mk n).bias := by have := he.1; unfold Fmt.qmin at this; omega
  have hw : 0 < 2 ^ (Fmt.mk n).w := Nat.two_pow_pos _
  have hd : 0 < 1000 ^ (Fmt.mk n).declets := Nat.pow_pos (by decide)
  have hmsd : c / 1000 ^ (Fmt.mk n).declets < 10 := by
    rw [Nat.div_lt_iff_lt_mul hd, ← ten_pow_p n hn]; exact hc
  generalize hEdef : (e + (Fmt.mk n).bias).toNat = E
  have hEe : (E : Int) = e + (Fmt.mk n).bias := hEdef ▸ Int.toNat_of_nonneg h0
  have hetop : E / 2 ^ (Fmt.mk n).w ≤ 2 := Nat.le_of_lt_succ ((Nat.div_lt_iff_lt_mul hw).2
    ((exp_le_qmax_iff n E).1 (by rw [hEe, Int.add_sub_cancel]; exact he.2)))
  have hN : encodeFin ⟨n⟩ neg c e = signBit ⟨n⟩ neg +
      (encodePair (E / 2 ^ (Fmt.mk n).w) (c / 1000 ^ (Fmt.mk n).declets) * 2 ^ (Fmt.mk n).w + E % 2 ^ (Fmt.mk n).w)
        * 2 ^ (Fmt.mk n).t + trailingEncode (Fmt.mk n).declets (c % 1000 ^ (Fmt.mk n).declets) := by
    simp only [encodeFin, hEdef, encodePair]
  have hG := fields_lt (Nat.lt_trans (decodePair_encodePair _ hetop _ hmsd).1 (by decide : 30 < 2 ^ 5))
    (Nat.mod_lt E hw)
  obtain ⟨h1, h2⟩ := decode_pack n hn neg _ _ hG (trailingEncode_lt_t n _)
  rw [hN]
  refine ⟨?_, h2⟩
  rw [h1, decodeFields_fin _ _ _ _ hetop hmsd (Nat.mod_lt E hw), trailing_roundtrip, Nat.mod_mod,
    Nat.div_add_mod' c, Nat.div_add_mod' E, hEe, Int.add_sub_cancel]

/-- **Every pattern decodes inside the format**, canonical or not (non-canonical declets, large-digit combination). -/
theorem decode_fin_bounds (n : Nat) (hn : 0 < n) (N : Nat) (s : Bool) (c : Nat) (e : Int)
    (h : decode ⟨n⟩ N = .fin s c e) :
    c < 10 ^ (Fmt.mk n).p ∧ (Fmt.mk n).qmin ≤ e ∧ e ≤ (Fmt.mk n).qmax := by
  rw [decode_eq] at h
  obtain ⟨h1, h2, h3⟩ := decodeFields_fin_bounds (Nat.mod_lt _ (Nat.two_pow_pos _)) h
  rw [elimit_eq n] at h3
  rw [ten_pow_p n hn]
  simp only [Fmt.qmin]
  exact ⟨h1, by omega, by omega⟩

theorem decode_nan_payload_lt (n : Nat) (N : Nat) (s g : Bool) (p : Nat) (h : decode ⟨n⟩ N = .nan s g p) :
    p < 1000 ^ (Fmt.mk n).declets := by
  rw [decode_eq, decodeFields] at h
  split at h
  · cases h
  · split at h
    · injection h with _ _ hp; rw [← hp]; exact trailingDecode_lt _ _
    · cases h

theorem decode_encodeInf (n : Nat) (hn : 0 < n) (neg : Bool) :
    decode ⟨n⟩ (encodeInf ⟨n⟩ neg) = .inf neg ∧ encodeInf ⟨n⟩ neg < 2 ^ (32 * n) := by
  have hG : 30 * 2 ^ (Fmt.mk n).w < 2 ^ ((Fmt.mk n).w + 5) := by
    rw [Nat.pow_add]; have := Nat.two_pow_pos (Fmt.mk n).w; omega
  obtain ⟨h1, h2⟩ := decode_pack n hn neg _ 0 hG (Nat.two_pow_pos _)
  rw [Nat.add_zero] at h1 h2
  rw [decodeFields_inf] at h1
  exact ⟨h1, h2⟩

theorem decode_encodeNan (n : Nat) (hn : 0 < n) (neg sig : Bool) (payload : Nat) (hp : payload < 1000 ^ (Fmt.mk n).declets) :
    decode ⟨n⟩ (encodeNan ⟨n⟩ neg sig payload) = .nan neg sig payload ∧ encodeNan ⟨n⟩ neg sig payload < 2 ^ (32 * n) := by
  have hw : 0 < (Fmt.mk n).w := Nat.succ_pos _
  have hG : (62 + if sig then 1 else 0) * 2 ^ ((Fmt.mk n).w - 1) < 2 ^ ((Fmt.mk n).w + 5) := by
    have : (Fmt.mk n).w + 5 = ((Fmt.mk n).w - 1) + 6 := by omega
    rw [this, Nat.pow_add, Nat.mul_comm]
    exact Nat.mul_lt_mul_of_pos_left (by cases sig <;> decide) (Nat.two_pow_pos _)
  obtain ⟨h1, h2⟩ := decode_pack n hn neg _ _ hG (trailingEncode_lt_t n payload)
  rw [decodeFields_nan _ _ hw, trailing_roundtrip, Nat.mod_eq_of_lt hp] at h1
  exact ⟨h1, h2⟩

theorem WF.encodeInf {n : Nat} (hn : 0 < n) (neg : Bool) : WF ⟨4 * n, encodeInf ⟨n⟩ neg⟩ n :=
  ⟨hn, rfl, (decode_encodeInf n hn neg).2⟩

theorem WF.encodeNan {n : Nat} (hn : 0 < n) (neg sig : Bool) {payload : Nat} (hp : payload < 1000 ^ (Fmt.mk n).declets) :
    WF ⟨4 * n, encodeNan ⟨n⟩ neg sig payload⟩ n :=
  ⟨hn, rfl, (decode_encodeNan n hn neg sig payload hp).2⟩

/-- one case analysis for `decode_canon` and `canon_lt` -/
theorem canon_spec (n : Nat) (hn : 0 < n) (N : Nat) :
    decode ⟨n⟩ (canon ⟨n⟩ N) = decode ⟨n⟩ N ∧ canon ⟨n⟩ N < 2 ^ (32 * n) := by
  unfold canon
  cases h : decode ⟨n⟩ N with
  | fin s c e =>
    obtain ⟨h1, h2, h3⟩ := decode_fin_bounds n hn N s c e h
    exact decode_encodeFin n hn s c e h1 ⟨h2, h3⟩
  | inf s => exact decode_encodeInf n hn s
  | nan s g p => exact decode_encodeNan n hn s g p (decode_nan_payload_lt n N s g p h)

theorem decode_canon (n : Nat) (hn : 0 < n) (N : Nat) : decode ⟨n⟩ (canon ⟨n⟩ N) = decode ⟨n⟩ N :=
  (canon_spec n hn N).1

theorem canon_lt (n : Nat) (hn : 0 < n) (N : Nat) : canon ⟨n⟩ N < 2 ^ (32 * n) := (canon_spec n hn N).2

theorem canon_idem (n : Nat) (hn : 0 < n) (N : Nat) : canon ⟨n⟩ (canon ⟨n⟩ N) = canon ⟨n⟩ N := by
  show encode ⟨n⟩ (decode ⟨n⟩ (canon ⟨n⟩ N)) = encode ⟨n⟩ (decode ⟨n⟩ N)
  rw [decode_canon n hn N]

end Decstr.Proofs
