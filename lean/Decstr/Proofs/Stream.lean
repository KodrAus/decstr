import Decstr.Proofs.StreamBuf
/-!
# Proofs.Stream — C14: streaming (`parseFmt`) against string (`parseStr`) parsing

Byte by byte (`stepD`, `stepsD`, `runD`: `parse_ascii` without the capacity test) the `DecimalParser` over any buffer is
the buffer-free `ADec` built from StreamBuf's machines, and `end()` reads the same fields off both; a fragment is its
bytes unless the per-fragment capacity test refuses it, which needs a fixed buffer without room.  The string entry point
is the run over a borrowed string (`parseStr_eq_runD`, `parseStr_fields`).  Hence for an honest `Display` streaming and
string parsing agree on everything the encoder reads (`asciiFields`), for every fragmentation, up to `bufferTooSmall`; a
failing or error-swallowing `Display` yields no value the honest one would not.
-/
namespace Decstr.Proofs
open Decstr.Model Decstr.Spec

/-- the numeral a parse result denotes (digit values: coarser than `asciiFields`, which is what the encoder reads) -/
def outcome (r : Except ParseErr Parsed) : Except ParseErr Numeral := r.map numeralOf

/-- exactly what `fromParsed` reads of a parse result, as ASCII byte lists: sign, integer digits, fractional
    digits (if there is a point), exponent sign and digits; or the infinity sign; or NaN sign, kind, and the
    payload digits together with the "range is non-empty" test `fromParsed` applies to them. -/
inductive Fields where
  | finite (neg : Bool) (int : List Nat) (frac : Option (List Nat)) (exp : Option (Bool × List Nat))
  | inf (neg : Bool)
  | nan (neg signaling : Bool) (payload : Option (Bool × List Nat))
deriving Repr, DecidableEq

def asciiFields : Parsed → Fields
  | .finite f => .finite f.sig.neg (sigInt f.buf.ascii f.sig) (sigFrac f.buf.ascii f.sig)
      (f.exp.map fun e => (e.neg, slice f.buf.ascii e.range))
  | .infinity neg => .inf neg
  | .nan n => .nan n.neg n.signaling
      (n.payload.map fun s => (decide (s.range.stop > s.range.start), slice n.buf.ascii s.range))

def Fields.numeral : Fields → Numeral
  | .finite neg i fr ex => .finite neg (digitVals i) (digitVals (fr.getD [])) (ex.map fun e => (e.1, digitVals e.2))
  | .inf neg => .inf neg
  | .nan neg sg pl => .nan neg sg (pl.map fun x => digitVals x.2)

/-- the digit strings of the fields are non-empty runs of ASCII digits; a NaN payload may be empty (`nan()`), its flag
    is set only if it is not -/
def FieldsGood : Fields → Prop
  | .finite _ int frac exp => AsciiDigits int ∧ int ≠ [] ∧ (∀ fr, frac = some fr → AsciiDigits fr ∧ fr ≠ []) ∧
      (∀ e, exp = some e → AsciiDigits e.2 ∧ e.2 ≠ [])
  | .inf _ => True
  | .nan _ _ pl => ∀ x, pl = some x → AsciiDigits x.2 ∧ (x.1 = true → x.2 ≠ [])

theorem numeralOf_eq (p : Parsed) : numeralOf p = (asciiFields p).numeral := by
  cases p with
  | finite f =>
    obtain ⟨b, ⟨sn, r, pt⟩, ex⟩ := f
    cases pt <;> cases ex <;> rfl
  | infinity neg => rfl
  | nan n =>
    obtain ⟨b, sg, ng, pl⟩ := n
    cases pl <;> rfl

theorem outcome_eq (r : Except ParseErr Parsed) : outcome r = (r.map asciiFields).map Fields.numeral := by
  cases r with
  | error e => rfl
  | ok p => simp only [outcome, except_map_ok, numeralOf_eq]

/-- `fromParsed` with the slicing done: what `decimal_from_parsed` does once it has the digit strings -/
def fromFields (T : Ty) : Fields → Except OverflowErr Buf
  | .finite neg int frac ex =>
    let e0 : Except OverflowErr Int := match ex with
      | some e => T.exponentFromAscii e.1 e.2
      | none => .ok 0
    match e0 with
    | .error err => .error err
    | .ok e0 =>
      match frac with
      | some fr => encodeFinite T neg (int ++ fr) (T.lower e0 fr.length)
      | none => encodeFinite T neg int e0
  | .inf neg =>
    match T.withAtLeastBytes 4 with
    | .ok buf => .ok (encodeInfinity buf neg)
    | .error e => .error e
  | .nan neg signaling payload =>
    match payload with
    | some (true, ds) =>
      match T.withPrecision (ds.length + 1) none with
      | .error e => .error e
      | .ok buf => .ok (encodeNan (encodeSignificand buf ds).1 neg signaling)
    | _ =>
      match T.withAtLeastBytes 4 with
      | .ok buf => .ok (encodeNan buf neg signaling)
      | .error e => .error e

theorem fromParsed_eq (T : Ty) (p : Parsed) : fromParsed T p = fromFields T (asciiFields p) := by
  cases p with
  | finite f =>
    obtain ⟨b, ⟨sn, r, pt⟩, ex⟩ := f
    cases pt <;> cases ex <;> rfl
  | infinity neg => rfl
  | nan n =>
    obtain ⟨b, sg, ng, pl⟩ := n
    cases pl with
    | none => rfl
    | some s =>
      -- the flag in the fields is the test by which `fromParsed` filters the payload
      unfold fromParsed asciiFields
      by_cases hd : s.range.stop > s.range.start <;>
        simp only [Option.filter, Option.map_some, hd, decide_true, decide_false, ↓reduceIte, Bool.false_eq_true] <;> rfl

/-- the encoder only looks at the fields: equal fields give equal bytes / equal errors -/
theorem fromParsed_congr (T : Ty) (p q : Parsed) (h : asciiFields p = asciiFields q) :
    fromParsed T p = fromParsed T q := by
  rw [fromParsed_eq, fromParsed_eq, h]

/-- one byte of `DecimalParser::parse_ascii` (no capacity test) -/
def stepD : DecimalParser → Nat → Except ParseErr DecimalParser
  | .failed e, _ => .error e
  | .finite f, c => (f.step c).map .finite
  | .infinity i, c => (i.step c).map .infinity
  | .nan n, c => (n.step c).map .nan
  | .atStart b neg, c => DecimalParser.startStep b neg c

def stepsD (p : DecimalParser) : List Nat → Except ParseErr DecimalParser
  | [] => .ok p
  | c :: cs => match stepD p c with
    | .ok p' => stepsD p' cs
    | .error e => .error e

theorem stepsD_finite (f : FiniteParser) (cs : List Nat) : stepsD (.finite f) cs = (f.steps cs).map .finite := by
  induction cs generalizing f with
  | nil => rfl
  | cons c cs ih =>
    simp only [FiniteParser.steps, stepsD, stepD]
    cases f.step c with
    | error e => rfl
    | ok f' => exact ih f'

theorem stepsD_infinity (f : InfinityParser) (cs : List Nat) :
    stepsD (.infinity f) cs = (f.steps cs).map .infinity := by
  induction cs generalizing f with
  | nil => rfl
  | cons c cs ih =>
    simp only [InfinityParser.steps, stepsD, stepD]
    cases f.step c with
    | error e => rfl
    | ok f' => exact ih f'

theorem stepsD_nan (f : NanParser) (cs : List Nat) : stepsD (.nan f) cs = (f.steps cs).map .nan := by
  induction cs generalizing f with
  | nil => rfl
  | cons c cs ih =>
    simp only [NanParser.steps, stepsD, stepD]
    cases f.step c with
    | error e => rfl
    | ok f' => exact ih f'

theorem remaining_str (b : TextBuf) (h : b.kind = .str) : b.remaining = none := by
  simp [TextBuf.remaining, h]

def thenFinish : Except ParseErr DecimalParser → Except ParseErr Parsed
  | .ok p => p.finish
  | .error e => .error e

def runD (p : DecimalParser) (cs : List Nat) : Except ParseErr Parsed := thenFinish (stepsD p cs)

theorem _root_.Decstr.Model.DecimalParser.finish_eq_ok {dp : DecimalParser} {p : Parsed} (h : dp.finish = .ok p) :
    (∃ f, dp = .finite f ∧ f.hasDigits = true ∧ p = .finite ⟨f.buf, f.sig, f.exp⟩) ∨
    (∃ i, dp = .infinity i ∧ p = .infinity i.neg) ∨
    (∃ n, dp = .nan n ∧ p = .nan ⟨n.buf, n.signaling, n.neg, n.payload⟩) := by
  revert h
  fun_cases DecimalParser.finish dp
  case case1 f =>
    simp only [FiniteParser.finish]
    -- `FiniteParser.finish` answers only when `hasDigits` is set
    cases hd : f.hasDigits <;> intro h <;> cases h
    exact .inl ⟨f, rfl, hd, rfl⟩
  case case2 i =>
    simp only [InfinityParser.finish]
    split <;> intro h <;> cases h
    exact .inr (.inl ⟨i, rfl, rfl⟩)
  case case3 n =>
    -- both accepting arms of `NanParser.finish` return the parser's own fields
    fun_cases NanParser.finish n <;> intro h <;> cases h
    all_goals exact .inr (.inr ⟨n, rfl, by simp only [*]⟩)
  -- `.atStart` and `.failed` never finish
  all_goals nofun

theorem stepsD_eq (p : DecimalParser) (cs : List Nat) : stepsD p cs = stepsM stepD p cs := by
  induction cs generalizing p with
  | nil => rfl
  | cons c cs ih =>
    simp only [stepsD, stepsM, ih]
    cases stepD p c <;> rfl

inductive ADec where
  | atStart (neg : Option Bool)
  | finite (a : AFin)
  | infinity (a : AInf)
  | nan (a : ANan)
deriving Repr, DecidableEq

namespace ADec
/-- the `AtStart` arm, branch for branch as `DecimalParser.startStep` (whose `s`/`S` and `n`/`N` arms are one here:
    replayed, they read the same): a sub-machine is created and the sign held back is replayed into it -/
def start (neg : Option Bool) (c : Nat) : Except ParseErr ADec :=
  if isDigit c then ((({} : AFin).steps (signByte neg ++ [c]))).map .finite
  else if c = 45 && neg.isNone then .ok (.atStart (some true))
  else if c = 43 && neg.isNone then .ok (.atStart (some false))
  else if c = 115 ∨ c = 83 ∨ c = 110 ∨ c = 78 then ((({} : ANan).steps (signByte neg ++ [c]))).map .nan
  else if c = 105 ∨ c = 73 then .ok (.infinity ⟨kwInfinity.drop 1, neg.getD false⟩)
  else .error (.char c)

def step : ADec → Nat → Except ParseErr ADec
  | .finite a, c => (a.step c).map .finite
  | .infinity a, c => (a.step c).map .infinity
  | .nan a, c => (a.step c).map .nan
  | .atStart neg, c => start neg c

def steps (a : ADec) (cs : List Nat) : Except ParseErr ADec := stepsM ADec.step a cs
end ADec

def AFin.finish (a : AFin) : Except ParseErr Fields :=
  if !a.hasDigits then .error .endOfInput else .ok (.finite a.neg a.int a.frac a.exp)
def AInf.finish (a : AInf) : Except ParseErr Fields :=
  if a.expecting = [] || a.expecting = kwInfinity.drop 3 then .ok (.inf a.neg) else .error .endOfInput
def ANan.finish (a : ANan) : Except ParseErr Fields :=
  match a.expecting, a.payload with
  | [], some bs => .ok (.nan a.neg a.signaling (some (!bs.isEmpty, bs)))
  | [40, 41], none => .ok (.nan a.neg a.signaling none)
  | _, _ => .error .endOfInput
def ADec.finish : ADec → Except ParseErr Fields
  | .finite a => a.finish
  | .infinity a => a.finish
  | .nan a => a.finish
  | .atStart _ => .error .endOfInput

/-- from `.atStart none`: what every buffer kind computes of a whole text (up to capacity) -/
def ADec.run (a : ADec) (cs : List Nat) : Except ParseErr Fields :=
  match a.steps cs with
  | .ok a' => a'.finish
  | .error e => .error e

/-- the `.failed` arm is arbitrary: `InvD` excludes that state -/
def viewD : DecimalParser → ADec
  | .atStart _ neg => .atStart neg
  | .finite f => .finite (viewF f)
  | .infinity i => .infinity (viewI i)
  | .nan n => .nan (viewN n)
  | .failed _ => .atStart none

variable {txt : List Nat}

def InvD (txt : List Nat) : DecimalParser → List Nat → Prop
  | .atStart b neg, rest => Tracks txt b (signByte neg ++ rest)
  | .finite f, rest => InvF f ∧ Tracks txt f.buf rest
  | .infinity _, _ => True
  | .nan n, rest => InvN n ∧ Tracks txt n.buf rest
  | .failed _, _ => False

theorem stepD_view (p : DecimalParser) (c : Nat) (rest : List Nat) (hI : InvD txt p (c :: rest)) :
    SimV viewD (InvD txt · rest) (stepD p c) ((viewD p).step c) := by
  cases p with
  | failed e => exact hI.elim
  | finite f => exact (finite_step_view f c rest hI.1 hI.2).map DecimalParser.finite ADec.finite (fun _ => rfl) fun _ h => h
  | infinity i =>
    exact SimV.map (P := fun _ => True) ⟨infinity_step_view i c, fun _ _ => trivial⟩ DecimalParser.infinity ADec.infinity
      (fun _ => rfl) fun _ _ => trivial
  | nan n => exact (nan_step_view n c rest hI.1 hI.2).map DecimalParser.nan ADec.nan (fun _ => rfl) fun _ h => h
  | atStart b neg =>
    simp only [InvD] at hI
    simp only [stepD, viewD, ADec.step]
    -- the guards come from the abstract chain, what `startStep` does under them from `startStep_digit/_nan/_inf`;
    -- case1 a digit, case2 `-`, case3 `+`, case4 `s`/`S`/`n`/`N`, case5 `i`/`I`, case6 any other byte
    fun_cases ADec.start neg c
    case case1 h =>
      have hv := finite_steps_view (FiniteParser.begin b) (signByte neg ++ [c]) rest (invF_begin b)
        (by rw [List.append_assoc]; exact hI)
      rw [viewF_begin] at hv
      rw [startStep_digit b neg c h]
      exact hv.map DecimalParser.finite ADec.finite (fun _ => rfl) fun _ h => h
    case case2 _ h =>
      obtain ⟨rfl, rfl⟩ : c = 45 ∧ neg = none := by simpa using h
      exact .ok ⟨rfl, hI⟩
    case case3 _ _ h =>
      obtain ⟨rfl, rfl⟩ : c = 43 ∧ neg = none := by simpa using h
      exact .ok ⟨rfl, hI⟩
    case case4 h =>
      rw [startStep_nan b neg c h]
      exact (nan_steps_view { buf := b } (signByte neg ++ [c]) rest (invN_new b)
        (by rw [List.append_assoc]; exact hI)).map DecimalParser.nan ADec.nan (fun _ => rfl) fun _ h => h
    case case5 h =>
      obtain ⟨i, hs, hv, -⟩ := startStep_inf b neg c h
      rw [hs]
      exact .ok ⟨congrArg ADec.infinity hv, trivial⟩
    case case6 _ _ _ h h' =>
      simp only [not_or] at h h'
      simp only [DecimalParser.startStep, *, ↓reduceIte, decide_false, Bool.or_self, Bool.false_eq_true]
      exact .error

theorem stepsD_view (p : DecimalParser) (cs rest : List Nat) (hI : InvD txt p (cs ++ rest)) :
    SimV viewD (InvD txt · rest) (stepsD p cs) ((viewD p).steps cs) := by
  simp only [stepsD_eq]
  exact stepsM_sim viewD (InvD txt) stepD_view p cs rest hI

/-! ## `end()` reads the same fields -/

theorem finite_finish_view (f : FiniteParser) (hI : InvF f) :
    (f.finish.map Parsed.finite).map asciiFields = (viewF f).finish := by
  have hexp : (f.exp.map fun e => (e.neg, slice f.buf.text e.range)) =
      f.exp.map fun e => (e.neg, slice (seen f.buf) e.range) := by
    cases he : f.exp with
    | none => rfl
    | some e => rw [Option.map_some, slice_text_eq_seen f.buf e.range (Nat.le_of_eq (hI.exp_some he).2.1)]; rfl
  unfold FiniteParser.finish AFin.finish
  have hd : (viewF f).hasDigits = f.hasDigits := rfl
  rw [hd]
  cases f.hasDigits with
  | false => rfl
  | true =>
    simp only [Bool.not_true, Bool.false_eq_true, if_false, except_map_ok, asciiFields, TextBuf.ascii, viewF]
    obtain ⟨hi, hf⟩ := hI.sig_congr (slice_text_eq_seen f.buf)
    rw [hi, hf, hexp]

theorem infinity_finish_view (i : InfinityParser) :
    (i.finish.map Parsed.infinity).map asciiFields = (viewI i).finish := by
  have hEx : (viewI i).expecting = i.expecting := rfl
  unfold InfinityParser.finish AInf.finish
  rw [hEx]
  split <;> rfl

theorem nan_finish_view (n : NanParser) (hI : InvN n) (hT : Tracks txt n.buf []) :
    (n.finish.map Parsed.nan).map asciiFields = (viewN n).finish := by
  obtain ⟨b, ex, sg, ng, pl⟩ := n
  obtain ⟨hsuf, hpay⟩ := hI
  simp only at hsuf hpay hT
  have hn := pos_eq_seen_length hT
  cases pl with
  | none =>
    rcases nanSuffix_cases _ hsuf with h | h | h | h | h | h | h <;> subst h <;> rfl
  | some s =>
    obtain ⟨h1, h2, h3, h4⟩ := hpay s rfl
    rcases h4 with ⟨h4, h5⟩ | ⟨h4, h5⟩
    · subst h4; rfl
    · subst h4
      have hsl : slice b.text s.range = slice (seen b) s.range := slice_text_eq_seen b s.range h5
      have hlen := slice_length (seen b) s.range (hn ▸ h5)
      have hflag : decide (s.range.stop > s.range.start) = !(slice (seen b) s.range).isEmpty := by
        cases hs : slice (seen b) s.range with
        | nil => exact decide_eq_false (Nat.not_lt.2 (Nat.sub_eq_zero_iff_le.1 (hlen.symm.trans (hs ▸ rfl))))
        | cons x l => exact decide_eq_true (Nat.lt_of_sub_pos (hlen ▸ hs ▸ Nat.succ_pos _))
      simp only [NanParser.finish, ANan.finish, viewN, h1, h2, Option.map_some, Bool.not_false, Option.isNone_none,
        Bool.and_self, if_true, except_map_ok, asciiFields, TextBuf.ascii, hsl, hflag]

theorem finish_view (p : DecimalParser) (hI : InvD txt p []) : p.finish.map asciiFields = (viewD p).finish := by
  cases p with
  | failed e => exact hI.elim
  | atStart b neg => rfl
  | finite f => exact finite_finish_view f hI.1
  | infinity i => exact infinity_finish_view i
  | nan n => exact nan_finish_view n hI.1 hI.2

theorem runD_view (p : DecimalParser) (cs : List Nat) (hI : InvD txt p cs) :
    (runD p cs).map asciiFields = (viewD p).run cs := by
  obtain ⟨h1, h2⟩ := stepsD_view p cs [] (by simpa using hI)
  unfold runD ADec.run
  rw [← h1]
  cases hs : stepsD p cs with
  | error e => rfl
  | ok p' => exact finish_view p' (h2 p' hs)

theorem stepsD_append (p : DecimalParser) (a b : List Nat) :
    stepsD p (a ++ b) = match stepsD p a with
      | .ok p' => stepsD p' b
      | .error e => .error e := by
  simp only [stepsD_eq, stepsM_append]
  cases stepsM stepD p a <;> rfl

/-- an error has been recorded (`context`): `parse_ascii` refuses every later fragment with it -/
def isFailed : DecimalParser → Bool
  | .failed _ => true
  | _ => false

/-- the text buffer of a live parser; `.failed` has none, the `default` there is never looked at (`isFailed p = false`
    stands next to every use) -/
def bufOf : DecimalParser → TextBuf
  | .atStart b _ => b
  | .finite f => f.buf
  | .infinity i => i.buf
  | .nan n => n.buf
  | .failed _ => default

/-- how many bytes the parser has accounted for at most: the stored text, plus a sign held back by `AtStart` -/
def storedD : DecimalParser → Nat
  | .atStart b neg => b.text.length + (signByte neg).length
  | .finite f => f.buf.text.length
  | .infinity i => i.buf.text.length
  | .nan n => n.buf.text.length
  | .failed _ => 0

theorem steps_grow {σ : Type} {step : σ → Nat → Except ParseErr σ} (buf : σ → TextBuf)
    (hg : ∀ q q' c, step q c = .ok q' → Grow (buf q) (buf q')) (p p' : σ) (cs : List Nat)
    (h : stepsM step p cs = .ok p') :
    (buf p').kind = (buf p).kind ∧ (buf p').text.length ≤ (buf p).text.length + cs.length :=
  (stepsM_grow step (fun _ => True) (buf · |>.kind) (buf · |>.text.length)
    (fun s s' c h => ⟨trivial, hg s s' c h⟩) p p' cs trivial h).2

theorem finite_steps_grow {p p' : FiniteParser} {cs : List Nat} (h : p.steps cs = .ok p') :
    p'.buf.kind = p.buf.kind ∧ p'.buf.text.length ≤ p.buf.text.length + cs.length :=
  steps_grow (·.buf) finite_step_grow p p' cs (FiniteParser.steps_eq p cs ▸ h)

theorem infinity_steps_grow {p p' : InfinityParser} {cs : List Nat} (h : p.steps cs = .ok p') :
    p'.buf.kind = p.buf.kind ∧ p'.buf.text.length ≤ p.buf.text.length + cs.length :=
  steps_grow (·.buf) infinity_step_grow p p' cs (InfinityParser.steps_eq p cs ▸ h)

theorem nan_steps_grow {p p' : NanParser} {cs : List Nat} (h : p.steps cs = .ok p') :
    p'.buf.kind = p.buf.kind ∧ p'.buf.text.length ≤ p.buf.text.length + cs.length :=
  steps_grow (·.buf) nan_step_grow p p' cs (NanParser.steps_eq p cs ▸ h)

theorem signByte_length_le (neg : Option Bool) : (signByte neg).length ≤ 1 := by
  rcases neg with _ | _ | _ <;> simp [signByte]

theorem stepD_grow (p p' : DecimalParser) (c : Nat) (h : stepD p c = .ok p') :
    isFailed p' = false ∧ (bufOf p').kind = (bufOf p).kind ∧ storedD p' ≤ storedD p + 1 := by
  cases p with
  | failed e => cases h
  | finite f =>
    obtain ⟨f', hs, rfl⟩ := Except.map_eq_ok.1 h
    exact ⟨rfl, finite_step_grow f f' c hs⟩
  | infinity f =>
    obtain ⟨f', hs, rfl⟩ := Except.map_eq_ok.1 h
    exact ⟨rfl, infinity_step_grow f f' c hs⟩
  | nan f =>
    obtain ⟨f', hs, rfl⟩ := Except.map_eq_ok.1 h
    exact ⟨rfl, nan_step_grow f f' c hs⟩
  | atStart b neg =>
    simp only [stepD] at h
    -- `ADec.start` is split only for its guards, which are those of `startStep` (cases as in `stepD_view`)
    fun_cases ADec.start neg c
    case case1 hd =>
      obtain ⟨f', hs, rfl⟩ := Except.map_eq_ok.1 (startStep_digit b neg c hd ▸ h)
      have g := finite_steps_grow hs
      exact ⟨rfl, g.1, by have g2 := g.2; rw [List.length_append] at g2; exact g2⟩
    case case2 | case3 =>
      simp only [DecimalParser.startStep, *, ↓reduceIte, Bool.false_eq_true] at h
      cases h
      exact ⟨rfl, rfl, Nat.succ_le_succ (Nat.le_add_right _ _)⟩
    case case4 hn =>
      obtain ⟨f', hs, rfl⟩ := Except.map_eq_ok.1 (startStep_nan b neg c hn ▸ h)
      have g := nan_steps_grow hs
      exact ⟨rfl, g.1, by have g2 := g.2; rw [List.length_append] at g2; exact g2⟩
    case case5 hi =>
      obtain ⟨i, hs, -, hb⟩ := startStep_inf b neg c hi
      cases hs.symm.trans h
      refine ⟨rfl, ?_, ?_⟩ <;> simp only [bufOf, storedD, hb]
      · exact put_kind b c
      · exact Nat.le_trans (text_length_put b c) (Nat.succ_le_succ (Nat.le_add_right _ _))
    case case6 _ _ _ hn hi =>
      simp only [not_or] at hn hi
      simp only [DecimalParser.startStep, *, ↓reduceIte, decide_false, Bool.or_self, Bool.false_eq_true] at h
      cases h

theorem startStep_atStart {b b' : TextBuf} {neg neg' : Option Bool} {c : Nat}
    (h : DecimalParser.startStep b neg c = .ok (.atStart b' neg')) : b' = b := by
  revert h; fun_cases DecimalParser.startStep b neg c <;> intro h <;> cases h <;> rfl

theorem stepsD_grow {p p' : DecimalParser} {cs : List Nat} (hf : isFailed p = false) (h : stepsD p cs = .ok p') :
    isFailed p' = false ∧ (bufOf p').kind = (bufOf p).kind ∧ storedD p' ≤ storedD p + cs.length :=
  stepsM_grow _ (isFailed · = false) (bufOf · |>.kind) storedD stepD_grow p p' cs hf (stepsD_eq p cs ▸ h)

/-- where a successful run ends: in a state that is in step with its buffer, whose kind is the one it began with -/
theorem runD_ok {p : DecimalParser} {cs : List Nat} {r : Parsed} (hI : InvD txt p cs) (hf : isFailed p = false)
    (h : runD p cs = .ok r) : ∃ q, InvD txt q [] ∧ (bufOf q).kind = (bufOf p).kind ∧ q.finish = .ok r := by
  unfold runD at h
  cases hs : stepsD p cs with
  | error e => rw [hs] at h; cases h
  | ok q =>
    rw [hs] at h
    exact ⟨q, (stepsD_view p cs [] (by simpa using hI)).2 q hs, (stepsD_grow hf hs).2.1, h⟩

/-- the capacity test `parse_ascii` makes once per fragment, before any byte is consumed -/
def capOk (b : TextBuf) (n : Nat) : Bool :=
  match b.remaining with
  | some r => !decide (r < n)
  | none => true

theorem capTest_eq {α : Type} (b : TextBuf) (n : Nat) (x : Except ParseErr α) :
    (match b.remaining with
      | some r => if r < n then .error .bufferTooSmall else x
      | none => x) = if capOk b n then x else .error .bufferTooSmall := by
  unfold capOk
  cases b.remaining with
  | none => rfl
  | some r => by_cases h : r < n <;> simp [h]

theorem finite_parseAscii_eq (p : FiniteParser) (frag : List Nat) :
    p.parseAscii frag = if capOk p.buf frag.length then p.steps frag else .error .bufferTooSmall :=
  capTest_eq p.buf frag.length (p.steps frag)

theorem infinity_parseAscii_eq (p : InfinityParser) (frag : List Nat) :
    p.parseAscii frag = if capOk p.buf frag.length then p.steps frag else .error .bufferTooSmall :=
  capTest_eq p.buf frag.length (p.steps frag)

theorem nan_parseAscii_eq (p : NanParser) (frag : List Nat) :
    p.parseAscii frag = if capOk p.buf frag.length then p.steps frag else .error .bufferTooSmall :=
  capTest_eq p.buf frag.length (p.steps frag)

/-- room for `n` more bytes, a sign held back by `AtStart` counting as stored; for a sub-parser this is `Fits` of its
    buffer, by definition -/
def Roomy (p : DecimalParser) (n : Nat) : Prop := Room (bufOf p).kind (storedD p) n

theorem capOk_of_fits {b : TextBuf} {n : Nat} (h : Fits b n) : capOk b n = true := by
  obtain ⟨k, t, i⟩ := b
  cases k with
  | str => rfl
  | vec => rfl
  | array cap =>
    have := h cap rfl
    simp only [capOk, TextBuf.remaining, Bool.not_eq_true', decide_eq_false_iff_not] at this ⊢
    omega

/-- conversely, while the text is within the array (else `remaining_capacity` has been cut off at 0) -/
theorem fits_of_capOk {b : TextBuf} {n : Nat} (h0 : Fits b 0) (h : capOk b n = true) : Fits b n := by
  intro cap hc
  have := h0 cap hc
  simp only [capOk, TextBuf.remaining, hc, Bool.not_eq_true', decide_eq_false_iff_not] at h
  omega

theorem capTest_cases {σ τ : Type} (b : TextBuf) (n : Nat) (x : Except ParseErr σ) (F : σ → τ) :
    (if capOk b n then x else .error .bufferTooSmall).map F = x.map F ∨
      ((if capOk b n then x else .error .bufferTooSmall).map F = .error .bufferTooSmall ∧
        ¬ Fits b n) := by
  cases h : capOk b n
  · exact .inr ⟨rfl, fun hr => by rw [capOk_of_fits hr] at h; cases h⟩
  · exact .inl rfl

theorem parseAscii_nil (p : DecimalParser) (hf : isFailed p = false) : p.parseAscii [] = .ok p := by
  cases p with
  | failed e => cases hf
  | _ => rw [DecimalParser.parseAscii.eq_def]

theorem parseAscii_finite (f : FiniteParser) (c : Nat) (cs : List Nat) :
    (DecimalParser.finite f).parseAscii (c :: cs) = (f.parseAscii (c :: cs)).map .finite := by
  rw [DecimalParser.parseAscii.eq_def]
theorem parseAscii_infinity (f : InfinityParser) (c : Nat) (cs : List Nat) :
    (DecimalParser.infinity f).parseAscii (c :: cs) = (f.parseAscii (c :: cs)).map .infinity := by
  rw [DecimalParser.parseAscii.eq_def]
theorem parseAscii_nan (f : NanParser) (c : Nat) (cs : List Nat) :
    (DecimalParser.nan f).parseAscii (c :: cs) = (f.parseAscii (c :: cs)).map .nan := by
  rw [DecimalParser.parseAscii.eq_def]
theorem parseAscii_atStart (b : TextBuf) (neg : Option Bool) (c : Nat) (cs : List Nat) :
    (DecimalParser.atStart b neg).parseAscii (c :: cs) =
      match DecimalParser.startStep b neg c with
      | .ok p' => p'.parseAscii cs
      | .error e => .error e := by
  rw [DecimalParser.parseAscii.eq_def]; rfl

theorem parseAscii_eq (p : DecimalParser) (cs : List Nat) (hf : isFailed p = false) :
    p.parseAscii cs = stepsD p cs ∨ (p.parseAscii cs = .error .bufferTooSmall ∧ ¬ Roomy p cs.length) := by
  induction cs generalizing p with
  | nil => left; rw [parseAscii_nil p hf]; rfl
  | cons c cs ih =>
    cases p with
    | failed e => simp [isFailed] at hf
    | finite f =>
      rw [parseAscii_finite, finite_parseAscii_eq, stepsD_finite]
      exact capTest_cases f.buf _ _ _
    | infinity f =>
      rw [parseAscii_infinity, infinity_parseAscii_eq, stepsD_infinity]
      exact capTest_cases f.buf _ _ _
    | nan f =>
      rw [parseAscii_nan, nan_parseAscii_eq, stepsD_nan]
      exact capTest_cases f.buf _ _ _
    | atStart b neg =>
      rw [parseAscii_atStart]
      simp only [stepsD, stepD]
      cases hs : DecimalParser.startStep b neg c with
      | error e => exact .inl rfl
      | ok p' =>
        exact (ih p' (stepD_grow (.atStart b neg) p' c hs).1).imp_right
          fun h => ⟨h.1, fun hr => h.2 (hr.grow (stepD_grow (.atStart b neg) p' c hs).2)⟩

theorem parseAscii_roomy (p : DecimalParser) (cs : List Nat) (hf : isFailed p = false)
    (hr : Roomy p cs.length) : p.parseAscii cs = stepsD p cs :=
  (parseAscii_eq p cs hf).resolve_right fun h => h.2 hr

/-- an honest `Display`: fragments are written until one is refused -/
def feedM (p : DecimalParser) : List (List Nat) → Except ParseErr DecimalParser
  | [] => .ok p
  | f :: rest => match p.parseAscii f with
    | .ok p' => feedM p' rest
    | .error e => .error e

theorem parseAscii_failed (e : ParseErr) (cs : List Nat) : (DecimalParser.failed e).parseAscii cs = .error e := by
  rw [DecimalParser.parseAscii.eq_def]

theorem parseAscii_ok {p p' : DecimalParser} {cs : List Nat} (h : p.parseAscii cs = .ok p') :
    isFailed p = false ∧ stepsD p cs = .ok p' := by
  have hf : isFailed p = false := by
    cases p with
    | failed e => rw [parseAscii_failed] at h; cases h
    | _ => rfl
  rcases parseAscii_eq p cs hf with e | ⟨e, -⟩
  · exact ⟨hf, e ▸ h⟩
  · rw [e] at h; cases h

theorem feed_cons_failed (e : ParseErr) (f : List Nat) (rest : List (List Nat)) (fault : Fault) (i : Nat) :
    feed (.failed e) (f :: rest) fault i =
      if fault == .failAt i then (.failed e, true)
      else if fault == .swallow then feed (.failed e) rest fault (i + 1) else (.failed e, true) := by
  conv => lhs; unfold feed

/-- `feed`'s arm for a parser that has failed is its general arm, since `parse_ascii` then returns the recorded error -/
theorem feed_cons (p : DecimalParser) (f : List Nat) (rest : List (List Nat)) (fault : Fault) (i : Nat) :
    feed p (f :: rest) fault i =
      if fault == .failAt i then (p, true)
      else match p.parseAscii f with
        | .ok p' => feed p' rest fault (i + 1)
        | .error e => if fault == .swallow then feed (.failed e) rest fault (i + 1) else (.failed e, true) := by
  cases p with
  | failed e => rw [parseAscii_failed, feed_cons_failed]
  | _ =>
    conv => lhs; unfold feed; dsimp only
    cases fault == .failAt i
    · cases DecimalParser.parseAscii _ f <;> rfl
    · rfl

theorem feed_nil (p : DecimalParser) (fault : Fault) (i : Nat) : feed p [] fault i = (p, fault == .failAt i) := by
  unfold feed; rfl

theorem feed_swallow_failed (e : ParseErr) (frs : List (List Nat)) (i : Nat) :
    feed (.failed e) frs .swallow i = (.failed e, false) := by
  induction frs generalizing i with
  | nil => exact feed_nil _ _ i
  | cons f rest ih => exact (feed_cons_failed e f rest _ i).trans (ih (i + 1))

/-- `hw`: the `Display` does not report failure itself while these fragments are written (it is honest, swallows
    errors, or fails only later) -/
theorem feed_honest (fault : Fault) (p : DecimalParser) (frs : List (List Nat)) (i : Nat)
    (hw : ∀ j, i ≤ j → j ≤ i + frs.length → (fault == .failAt j) = false) :
    feed p frs fault i = match feedM p frs with
      | .ok p' => (p', false)
      | .error e => (.failed e, !(fault == .swallow)) := by
  induction frs generalizing p i with
  | nil => simp [feed_nil, feedM, hw i (Nat.le_refl _) (Nat.le_refl _)]
  | cons f rest ih =>
    rw [feed_cons]
    simp only [feedM, hw i (Nat.le_refl _) (Nat.le_add_right _ _), Bool.false_eq_true, if_false]
    cases hp : p.parseAscii f with
    | ok p' =>
      exact ih p' (i + 1) fun j h1 h2 => hw j (Nat.le_of_succ_le h1) (by rw [List.length_cons]; omega)
    | error e =>
      cases fault with
      | none => rfl
      | swallow => exact feed_swallow_failed _ rest (i + 1)
      | failAt k => rfl

theorem feed_failAt (p : DecimalParser) (frs : List (List Nat)) (k i : Nat) (h1 : i ≤ k)
    (h2 : k ≤ i + frs.length) : (feed p frs (.failAt k) i).2 = true := by
  induction frs generalizing p i with
  | nil => rw [feed_nil]; cases Nat.le_antisymm h2 h1; exact beq_self_eq_true _
  | cons f rest ih =>
    rw [feed_cons]
    by_cases hn : (Fault.failAt k == .failAt i) = true
    · rw [if_pos hn]
    · rw [if_neg hn]
      -- not yet at the failing fragment: it is still to come
      have hlt : i + 1 ≤ k := Nat.lt_of_le_of_ne h1 fun e => hn (by rw [e]; exact beq_self_eq_true _)
      cases p.parseAscii f with
      | ok p' => exact ih p' (i + 1) hlt (by rw [Nat.add_right_comm]; exact h2)
      | error e => rfl

theorem feedM_eq (p : DecimalParser) (frs : List (List Nat)) (hf : isFailed p = false) :
    feedM p frs = stepsD p frs.flatten ∨
      (feedM p frs = .error .bufferTooSmall ∧ ¬ Roomy p frs.flatten.length) := by
  induction frs generalizing p with
  | nil => exact .inl rfl
  | cons f rest ih =>
    simp only [feedM, List.flatten_cons, stepsD_append, List.length_append]
    rcases parseAscii_eq p f hf with h | ⟨h, hn⟩
    · rw [h]
      cases hs : stepsD p f with
      | error e => exact .inl rfl
      | ok p' =>
        exact (ih p' (stepsD_grow hf hs).1).imp_right
          fun h => ⟨h.1, fun hr => h.2 (Room.grow (Nat.add_comm _ _ ▸ hr) (stepsD_grow hf hs).2)⟩
    · rw [h]; exact .inr ⟨rfl, fun hr => hn (hr.mono (Nat.le_add_right _ _))⟩

theorem parseFmt_honest (kind : BufKind) (frs : List (List Nat)) (fault : Fault)
    (hw : ∀ j, j ≤ frs.length → (fault == .failAt j) = false) :
    parseFmt kind frs fault = thenFinish (feedM (DecimalParser.begin (TextBuf.new kind [])) frs) := by
  unfold parseFmt
  rw [feed_honest fault _ frs 0 fun j _ h => hw j (Nat.zero_add frs.length ▸ h)]
  cases feedM (DecimalParser.begin (TextBuf.new kind [])) frs with
  | ok p => cases p <;> rfl
  | error e => cases fault <;> rfl

theorem parseFmt_none (kind : BufKind) (frs : List (List Nat)) :
    parseFmt kind frs .none = thenFinish (feedM (DecimalParser.begin (TextBuf.new kind [])) frs) :=
  parseFmt_honest kind frs .none fun _ _ => rfl

/-- a `Display` that swallows errors gets exactly what the honest one gets -/
theorem parseFmt_swallow (kind : BufKind) (frs : List (List Nat)) :
    parseFmt kind frs .swallow = parseFmt kind frs .none :=
  (parseFmt_honest kind frs .swallow fun _ _ => rfl).trans (parseFmt_none kind frs).symm

theorem invD_begin_str (input : List Nat) : InvD input (DecimalParser.begin (TextBuf.new .str input)) input := by
  intro _
  exact ⟨rfl, [], rfl, rfl⟩

theorem invD_begin_copy (kind : BufKind) (hk : kind ≠ .str) (rest : List Nat) :
    InvD [] (DecimalParser.begin (TextBuf.new kind [])) rest := by
  cases kind with
  | str => exact absurd rfl hk
  | array cap => exact tracks_of_ne_str _ _ (by simp [TextBuf.new])
  | vec => exact tracks_of_ne_str _ _ (by simp [TextBuf.new])

/-- `parse_str` is the byte-wise run followed by `end()` (the well-founded recursion of `parseAscii` removed): a borrowed
    string has no capacity to run out of -/
theorem parseStr_eq_runD (input : List Nat) :
    parseStr input = runD (DecimalParser.begin (TextBuf.new .str input)) input := by
  unfold parseStr runD
  rw [parseAscii_roomy _ input rfl fun _ hc => BufKind.noConfusion hc]
  cases stepsD (DecimalParser.begin (TextBuf.new .str input)) input <;> rfl

theorem parseStr_fields (input : List Nat) : (parseStr input).map asciiFields = (ADec.atStart none).run input := by
  rw [parseStr_eq_runD, runD_view _ _ (invD_begin_str input)]
  rfl

theorem parseFmt_fields (kind : BufKind) (hk : kind ≠ .str) (frs : List (List Nat)) :
    (parseFmt kind frs .none).map asciiFields = (ADec.atStart none).run frs.flatten ∨
      (parseFmt kind frs .none = .error .bufferTooSmall ∧
        ∃ cap, kind = .array cap ∧ cap < frs.flatten.length) := by
  rw [parseFmt_none]
  rcases feedM_eq (DecimalParser.begin (TextBuf.new kind [])) frs rfl with h | ⟨h, hn⟩
  · left
    rw [h]
    exact runD_view _ frs.flatten (invD_begin_copy kind hk frs.flatten)
  · right
    refine ⟨by rw [h]; rfl, ?_⟩
    cases kind with
    | str => exact absurd rfl hk
    | vec => exact absurd (fun cap hc => by cases hc) hn
    | array cap =>
      refine ⟨cap, rfl, Nat.lt_of_not_le fun hle => hn fun c hc => ?_⟩
      cases hc
      simpa [storedD, DecimalParser.begin, TextBuf.new, signByte] using hle

/-- C14's statement for one cut, on `DecimalParser.parseAscii` itself (the name does not say so): over a buffer without
    a capacity the fragment `a ++ b` is the fragment `a` and then `b`.  The byte loops have it without the proviso
    (`stepsD_append`, `X.steps_append`). -/
theorem steps_append (p : DecimalParser) (a b : List Nat) (hf : isFailed p = false)
    (hk : ∀ cap, (bufOf p).kind ≠ .array cap) :
    p.parseAscii (a ++ b) = match p.parseAscii a with
      | .ok p' => p'.parseAscii b
      | .error e => .error e := by
  have room : ∀ (q : DecimalParser) n, (bufOf q).kind = (bufOf p).kind → Roomy q n :=
    fun q n hq cap hc => absurd (hq ▸ hc) (hk cap)
  rw [parseAscii_roomy p (a ++ b) hf (room p _ rfl), parseAscii_roomy p a hf (room p _ rfl), stepsD_append]
  cases hs : stepsD p a with
  | error e => rfl
  | ok p' =>
    obtain ⟨g0, g1, -⟩ := stepsD_grow hf hs
    exact (parseAscii_roomy p' b g0 (room p' _ g1)).symm

/-- the two spellings of "no capacity": `steps_append` uses the right one, the three `parseAscii_append` the left -/
theorem remaining_eq_none_iff (b : TextBuf) : b.remaining = none ↔ ∀ cap, b.kind ≠ .array cap := by
  obtain ⟨k, t, i⟩ := b
  cases k <;> simp [TextBuf.remaining]

/-- a sub-parser's `parse_ascii` over a buffer without a capacity is its byte loop, and stays one: the three
    `parseAscii_append` below are this, read through `X.steps_eq` -/
theorem parseAsciiM_append {σ : Type} (step : σ → Nat → Except ParseErr σ) (buf : σ → TextBuf)
    (pa : σ → List Nat → Except ParseErr σ)
    (hpa : ∀ q cs, (buf q).remaining = none → pa q cs = stepsM step q cs)
    (hg : ∀ q q' c, step q c = .ok q' → Grow (buf q) (buf q'))
    (p : σ) (a b : List Nat) (h : (buf p).remaining = none) :
    pa p (a ++ b) = match pa p a with
      | .ok p' => pa p' b
      | .error e => .error e := by
  rw [hpa p _ h, hpa p _ h, stepsM_append]
  cases hs : stepsM step p a with
  | error e => rfl
  | ok p' =>
    have hk := (steps_grow buf hg p p' a hs).1
    exact (hpa p' b ((remaining_eq_none_iff _).2 (hk ▸ (remaining_eq_none_iff _).1 h))).symm

theorem FiniteParser.parseAscii_append (p : FiniteParser) (a b : List Nat) (h : p.buf.remaining = none) :
    p.parseAscii (a ++ b) = match p.parseAscii a with
      | .ok p' => p'.parseAscii b
      | .error e => .error e := by
  rw [parseAsciiM_append FiniteParser.step (·.buf) FiniteParser.parseAscii
    (fun q cs hq => by simp only [FiniteParser.parseAscii, hq, FiniteParser.steps_eq]) finite_step_grow p a b h]
  cases p.parseAscii a <;> rfl

theorem InfinityParser.parseAscii_append (p : InfinityParser) (a b : List Nat) (h : p.buf.remaining = none) :
    p.parseAscii (a ++ b) = match p.parseAscii a with
      | .ok p' => p'.parseAscii b
      | .error e => .error e := by
  rw [parseAsciiM_append InfinityParser.step (·.buf) InfinityParser.parseAscii
    (fun q cs hq => by simp only [InfinityParser.parseAscii, hq, InfinityParser.steps_eq]) infinity_step_grow p a b h]
  cases p.parseAscii a <;> rfl

theorem NanParser.parseAscii_append (p : NanParser) (a b : List Nat) (h : p.buf.remaining = none) :
    p.parseAscii (a ++ b) = match p.parseAscii a with
      | .ok p' => p'.parseAscii b
      | .error e => .error e := by
  rw [parseAsciiM_append NanParser.step (·.buf) NanParser.parseAscii
    (fun q cs hq => by simp only [NanParser.parseAscii, hq, NanParser.steps_eq]) nan_step_grow p a b h]
  cases p.parseAscii a <;> rfl

/-- **C14, unbounded buffer, on the fields the encoder reads** (stronger than `C14_vec`). -/
theorem C14_vec_fields (frs : List (List Nat)) :
    (parseFmt .vec frs .none).map asciiFields = (parseStr frs.flatten).map asciiFields := by
  rw [parseStr_fields]
  exact (parseFmt_fields .vec (by decide) frs).resolve_right fun ⟨_, _, h, _⟩ => by cases h

/-- **C14 for the unbounded buffer**: streaming = string parse of the concatenation, including which error -/
theorem C14_vec (frs : List (List Nat)) : outcome (parseFmt .vec frs .none) = outcome (parseStr frs.flatten) := by
  rw [outcome_eq, outcome_eq, C14_vec_fields]

/-- **C14, fixed buffer, on the fields the encoder reads** (stronger than `C14_array`). -/
theorem C14_array_fields (cap : Nat) (frs : List (List Nat)) :
    parseFmt (.array cap) frs .none = .error .bufferTooSmall ∨
    (parseFmt (.array cap) frs .none).map asciiFields = (parseStr frs.flatten).map asciiFields := by
  rw [parseStr_fields]
  exact (parseFmt_fields (.array cap) (by simp) frs).symm.imp_left (·.1)

/-- **C14 for a fixed text buffer**: the only permitted difference is "buffer too small" -/
theorem C14_array (cap : Nat) (frs : List (List Nat)) :
    parseFmt (.array cap) frs .none = .error .bufferTooSmall ∨
    outcome (parseFmt (.array cap) frs .none) = outcome (parseStr frs.flatten) := by
  rcases C14_array_fields cap frs with h | h
  · left; exact h
  · right; rw [outcome_eq, outcome_eq, h]

theorem C14_array_fits_fields (cap : Nat) (frs : List (List Nat)) (h : frs.flatten.length ≤ cap) :
    (parseFmt (.array cap) frs .none).map asciiFields = (parseStr frs.flatten).map asciiFields := by
  rw [parseStr_fields]
  refine (parseFmt_fields (.array cap) (by simp) frs).resolve_right ?_
  rintro ⟨_, c, hc, hlt⟩
  cases hc; omega

/-- a `Display` that reports failure yields an error, never a value -/
theorem C14_fail (kind : BufKind) (frs : List (List Nat)) (k : Nat) (hk : k ≤ frs.length) :
    ∃ e, parseFmt kind frs (.failAt k) = .error e := by
  have h := feed_failAt (DecimalParser.begin (TextBuf.new kind [])) frs k 0 (Nat.zero_le _) (by omega)
  unfold parseFmt
  generalize feed (DecimalParser.begin (TextBuf.new kind [])) frs (.failAt k) 0 = r at h
  obtain ⟨p, b⟩ := r
  simp only at h
  subst h
  cases p with
  | failed e => exact ⟨e, rfl⟩
  | _ => exact ⟨.source, rfl⟩

/-- a `Display` that ignores the errors it is handed cannot turn a rejected text into a value -/
theorem C14_swallow (kind : BufKind) (frs : List (List Nat)) (p : Parsed)
    (h : parseFmt kind frs .swallow = .ok p) : parseFmt kind frs .none = .ok p := by
  rw [← parseFmt_swallow]; exact h

/-- a value is only ever yielded as by an honest `Display`: a failure due after the last fragment is never reported -/
theorem parseFmt_ok_none {kind : BufKind} {frs : List (List Nat)} {fault : Fault} {p : Parsed}
    (h : parseFmt kind frs fault = .ok p) : parseFmt kind frs .none = .ok p := by
  cases fault with
  | none => exact h
  | swallow => exact C14_swallow kind frs p h
  | failAt k =>
    by_cases hk : k ≤ frs.length
    · obtain ⟨e, he⟩ := C14_fail kind frs k hk
      rw [he] at h; cases h
    · rw [parseFmt_none, ← parseFmt_honest kind frs (.failAt k) fun j hj => by simp; omega]
      exact h

/-- `try_parse` = `try_parse_str` of the concatenation; the one other outcome is `bufferTooSmall`, for a type whose
    fixed text buffer is shorter than the text -/
theorem C14_tryParse (T : Ty) (frs : List (List Nat)) :
    tryParse T frs .none = tryParseStr T frs.flatten ∨
      (tryParse T frs .none = .error (.parse .bufferTooSmall) ∧
        ∃ cap, T.textKind = .array cap ∧ cap < frs.flatten.length) := by
  unfold tryParse tryParseStr
  rcases parseFmt_fields T.textKind (by cases T <;> simp [Ty.textKind]) frs with h | ⟨h, hc⟩
  · left
    rw [← parseStr_fields] at h
    -- equal fields: both are the same error, or values the encoder cannot tell apart
    cases hr : parseFmt T.textKind frs .none <;> cases hs : parseStr frs.flatten <;> rw [hr, hs] at h
    · cases h; rfl
    · cases h
    · cases h
    · exact congrArg liftOverflow (fromParsed_congr T _ _ (Except.ok.inj h))
  · right; rw [h]; exact ⟨rfl, hc⟩

section Examples
/-- decidable equality of parse results, for the closed examples below only -/
@[instance_reducible] def exceptDecEq : DecidableEq (Except ParseErr Parsed) := fun a b =>
  match a, b with
  | .ok x, .ok y => if h : x = y then isTrue (by rw [h]) else isFalse (fun h' => by cases h'; exact h rfl)
  | .error x, .error y => if h : x = y then isTrue (by rw [h]) else isFalse (fun h' => by cases h'; exact h rfl)
  | .ok _, .error _ => isFalse (fun h => by cases h)
  | .error _, .ok _ => isFalse (fun h => by cases h)
attribute [local instance] exceptDecEq

/-- `"+1e+2"` parsed from a string: ranges into the borrowed text -/
def exStr : Parsed :=
  .finite ⟨⟨.str, [43, 49, 101, 43, 50], 5⟩, ⟨false, ⟨1, 2⟩, none⟩, some ⟨false, ⟨4, 5⟩⟩⟩
/-- `"+1" "e+2"` streamed into a `Vec`: ranges into the stored text, which has no `+` -/
def exVec : Parsed :=
  .finite ⟨⟨.vec, [49, 101, 50], 3⟩, ⟨false, ⟨0, 1⟩, none⟩, some ⟨false, ⟨2, 3⟩⟩⟩

example : parseStr [43, 49, 101, 43, 50] = .ok exStr := by decide +kernel
example : parseFmt .vec [[43, 49], [101, 43, 50]] .none = .ok exVec := by decide +kernel
-- `fromParsed_congr`: different parse results with the same fields
example : exStr ≠ exVec ∧ asciiFields exStr = asciiFields exVec := by decide +kernel
-- `C14_array_fits`: "12" ".5" fits in 4 bytes and parses; in 3 bytes the permitted difference does occur
example : ([[49, 50], [46, 53]] : List (List Nat)).flatten.length ≤ 4 := by decide
example : parseFmt (.array 4) [[49, 50], [46, 53]] .none =
    .ok (.finite ⟨⟨.array 4, [49, 50, 46, 53], 4⟩, ⟨false, ⟨0, 4⟩, some ⟨2, 3⟩⟩, none⟩) := by decide +kernel
example : parseFmt (.array 3) [[49, 50], [46, 53]] .none = .error .bufferTooSmall := by decide +kernel
-- `C14_fail`: a Display failing before its second fragment
example : (1 : Nat) ≤ ([[49, 50], [46, 53]] : List (List Nat)).length := by decide
example : parseFmt .vec [[49, 50], [46, 53]] (.failAt 1) = .error .source := by decide +kernel
-- `C14_swallow`: a swallowing Display that yields a value; one whose text is rejected stays rejected ("1x" "2")
example : parseFmt .vec [[49, 50], [46, 53]] .swallow =
    .ok (.finite ⟨⟨.vec, [49, 50, 46, 53], 4⟩, ⟨false, ⟨0, 4⟩, some ⟨2, 3⟩⟩, none⟩) := by decide +kernel
example : parseFmt .vec [[49, 120], [50]] .swallow = .error (.char 120) := by decide +kernel
-- the fixed text buffer `C14_tryParse` speaks of: `b64` has one, of 64 bytes
example : Ty.b64 ≠ Ty.big := by decide
example : Ty.b64.textKind = .array 64 := rfl

end Examples

#print axioms FiniteParser.steps_append
#print axioms InfinityParser.steps_append
#print axioms NanParser.steps_append
#print axioms stepsD_append
#print axioms steps_append
#print axioms FiniteParser.parseAscii_append
#print axioms InfinityParser.parseAscii_append
#print axioms NanParser.parseAscii_append
#print axioms parseStr_fields
#print axioms C14_vec_fields
#print axioms C14_vec
#print axioms C14_array_fields
#print axioms C14_array
#print axioms C14_array_fits_fields
#print axioms C14_fail
#print axioms parseFmt_swallow
#print axioms C14_swallow
#print axioms fromParsed_congr
#print axioms C14_tryParse

end Decstr.Proofs
