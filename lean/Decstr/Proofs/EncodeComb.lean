import Decstr.Proofs.SpecLemmas
import Mathlib.Tactic.Ring
/-!
# Proofs.EncodeComb — `encode_combination_finite`, for every width

The exponent loops (aligned for `n % 4 = 3`, shifted otherwise) have a closed form for any trip count; the combination byte
is a table.  Loops, combination byte and sign are proved for a layout in variables (`t` trailing bits, `w` continuation bits,
last byte `i`, `t + w = 8i + 2`); the width `32n` enters at the last step (`layout32`, `lastByte_layout`, `mse_eq`).
-/
namespace Decstr.Proofs
open Decstr.Model Decstr.Spec

theorem writeExpAligned_facts (e k di ei : Nat) (b : Buf) :
    (writeExpAligned e k di ei b).1.len = b.len ∧ (writeExpAligned e k di ei b).2 = (di + k, ei + k) := by
  induction k generalizing di ei b with
  | zero => exact ⟨rfl, rfl⟩
  | succ k ih =>
    rw [writeExpAligned, (ih _ _ _).1, (ih _ _ _).2, Nat.add_right_comm di, Nat.add_right_comm ei]
    exact ⟨rfl, rfl⟩

theorem writeExpShifted_facts (e s k di ei : Nat) (b : Buf) :
    (writeExpShifted e s k di ei b).1.len = b.len ∧ (writeExpShifted e s k di ei b).2 = (di + k, ei + k) := by
  induction k generalizing di ei b with
  | zero => exact ⟨rfl, rfl⟩
  | succ k ih =>
    rw [writeExpShifted, (ih _ _ _).1, (ih _ _ _).2, Nat.add_right_comm di, Nat.add_right_comm ei]
    exact ⟨rfl, rfl⟩

namespace EncodeAux

/-- the `c` bytes of `E` from byte `ei` on, as a number -/
def expChunk (E ei c : Nat) : Nat := (E >>> (8 * ei)) % 2 ^ (8 * c)

theorem expByte_lt (e i : Nat) : expByte e i < 256 := Nat.mod_lt _ (by decide)

theorem expByte_top {e i : Nat} (h : e < 2 ^ (8 * (i + 1))) : expByte e i = e / 2 ^ (8 * i) := Buf.get_top (b := ⟨0, e⟩) h

theorem expChunk_zero (E ei : Nat) : expChunk E ei 0 = 0 := Nat.mod_one _

theorem expChunk_succ (E ei c : Nat) : expChunk E ei (c + 1) = expByte E ei + 2 ^ 8 * expChunk E (ei + 1) c := by
  rw [expChunk, expChunk, expByte, Nat.mul_succ 8 ei, Nat.shiftRight_add, Nat.shiftRight_eq_div_pow _ 8, Nat.mul_succ 8 c,
    Nat.pow_add, Nat.mul_comm (2 ^ (8 * c)), Nat.mod_mul]

theorem writeExpShifted_eq {e s : Nat} (hs : s < 8) (c di ei : Nat) (b : Buf) :
    writeExpShifted e s c di ei b =
      (⟨b.len, b.bits ||| (expChunk e ei c <<< (8 * di + s))⟩, di + c, ei + c) := by
  induction c generalizing di ei b with
  | zero => simp [writeExpShifted, expChunk_zero]
  | succ c ih =>
    rw [writeExpShifted, Buf.orAt_pair b di (Nat.le_of_lt hs) (shiftLeft_lt_two_pow (w := 8) (expByte_lt e ei) (by omega)), ih,
      expChunk_succ, shiftLeft_cons (w := 8) (expByte_lt e ei), Nat.or_assoc]
    simp only [Nat.mul_succ, Nat.add_right_comm _ 8 s, Nat.add_assoc, Nat.add_comm 1 c]

theorem writeExpAligned_eq {e c di ei : Nat} {b : Buf} (hb : b.bits < 2 ^ (8 * di)) :
    writeExpAligned e c di ei b =
      (⟨b.len, b.bits + expChunk e ei c * 2 ^ (8 * di)⟩, di + c, ei + c) := by
  induction c generalizing di ei b with
  | zero => simp [writeExpAligned, expChunk_zero]
  | succ c ih =>
    have hlt : b.bits + expByte e ei * 2 ^ (8 * di) < 2 ^ (8 * (di + 1)) := by
      rw [Nat.add_comm, Nat.mul_succ]; exact fields_lt (g := 8) (expByte_lt e ei) hb
    rw [writeExpAligned, Buf.setAt_fresh hb, Nat.mod_eq_of_lt (expByte_lt e ei), ih hlt, expChunk_succ, pow8_succ]
    simp only [Nat.add_assoc, Nat.add_comm 1 c, Prod.mk.injEq, Buf.mk.injEq, true_and, and_true]
    ring

end EncodeAux
open EncodeAux

/-- the two `while` loops of `encode_combination_finite`; the alignment of the trailing significand decides which one runs -/
def combLoops (b : Buf) (e : Nat) : Buf × Nat × Nat :=
  if b.trailingBits % 8 = 0 then writeExpAligned e (b.len - 1 - b.trailingBits / 8) (b.trailingBits / 8) 0 b
  else writeExpShifted e (b.trailingBits % 8) (b.len - 1 - b.trailingBits / 8) (b.trailingBits / 8) 0 b

/-- `encode_combination_finite` after its loops: the partial byte of the exponent, the combination byte, the sign -/
def combTail (shift : Nat) (b : Buf) (di ei : Nat) (neg : Bool) (e msd : Nat) : Buf :=
  let b := b.orAt di (expByte e ei <<< shift)
  let mse := expByte e (msExponentOffset b.exponentBits).2 >>> ((msExponentOffset b.exponentBits).1 - 2)
  let combination :=
    if msd &&& 8 = 0 then
      ((mse &&& 2) <<< 5) ||| ((mse &&& 1) <<< 5) ||| ((msd &&& 4) <<< 2) ||| ((msd &&& 2) <<< 2) ||| ((msd &&& 1) <<< 2)
    else
      64 ||| 32 ||| ((mse &&& 2) <<< 3) ||| ((mse &&& 1) <<< 3) ||| ((msd &&& 1) <<< 2)
  let b := b.setAt di ((b.get di &&& 0x83) ||| combination)
  if neg then b.orAt di SIGN_NEGATIVE else b

theorem encodeCombinationFinite_split (b : Buf) (neg : Bool) (e msd : Nat) :
    encodeCombinationFinite b neg e msd =
      combTail (b.trailingBits % 8) (combLoops b e).1 (combLoops b e).2.1 (combLoops b e).2.2 neg e msd := by
  unfold encodeCombinationFinite combLoops
  rfl

/-- The loops write `c = j + 1` whole bytes of `E` from bit `t` upward and the write that follows them its rest, which fits
    the last byte: the buffer then holds `bits + E·2^t`.  The hypotheses are `layout32`'s tuple verbatim (`w` and `r` only
    tie the bound on `E` to `s`), so that the instance for `32n` bits passes them on as they come. -/
theorem combLoops_orAt (b : Buf) (E : Nat) {t w di s j r : Nat} (hs : s < 8) (hr : r + s = 10) (ht8 : t = 8 * di + s)
    (hlen : b.len = di + j + 2) (hw : w = 8 * j + r) (ht : b.trailingBits = t) (hb : b.bits < 2 ^ t) (hE : E < 2 ^ (w + 2)) :
    ∃ L, combLoops b E = (L, b.len - 1, j + 1) ∧
      L.orAt (b.len - 1) (expByte E (j + 1) <<< (t % 8)) = ⟨b.len, b.bits + E * 2 ^ t⟩ := by
  have hE : E < 2 ^ (8 * (j + 1) + (8 - s)) :=  -- `omega` is three times dearer with the buffer's hypotheses in sight
    Nat.lt_of_lt_of_le hE (Nat.pow_le_pow_right (by decide) (by clear hlen ht hb hE; omega))
  have hl : b.len - 1 = di + (j + 1) := by rw [hlen]; rfl
  generalize j + 1 = c at hE hl ⊢
  subst ht8
  have hd : (8 * di + s) / 8 = di := by rw [Nat.mul_add_div (by decide), Nat.div_eq_of_lt hs]; rfl
  have hm : (8 * di + s) % 8 = s := by rw [Nat.mul_add_mod, Nat.mod_eq_of_lt hs]
  -- what the loops leave: the low `c` bytes of `E` at bit `t`
  refine ⟨⟨b.len, b.bits ||| (E % 2 ^ (8 * c)) <<< (8 * di + s)⟩, ?_, ?_⟩
  · rw [combLoops, ht, hm, hd, hl, Nat.add_sub_cancel_left]
    split
    · next h0 =>
      subst h0
      rw [writeExpAligned_eq hb, or_shiftLeft_eq_add hb, expChunk, Nat.mul_zero, Nat.shiftRight_zero, Nat.zero_add]
      rfl
    · rw [writeExpShifted_eq hs, expChunk, Nat.mul_zero, Nat.shiftRight_zero, Nat.zero_add]
  · -- the byte after them is the rest of `E`; the two pieces are `E` again
    have hBs : E / 2 ^ (8 * c) < 2 ^ (8 - s) := by
      rw [Nat.div_lt_iff_lt_mul (Nat.two_pow_pos _), ← Nat.pow_add, Nat.add_comm]; exact hE
    have hB := expByte_top (i := c) (Nat.lt_of_lt_of_le hE (Nat.pow_le_pow_right (by decide)
      (by rw [Nat.mul_succ]; exact Nat.add_le_add_left (Nat.sub_le 8 _) _)))
    rw [hm, hl, Buf.orAt, hB, Nat.mod_eq_of_lt (shiftLeft_lt_two_pow hBs (Nat.le_of_eq (Nat.sub_add_cancel (Nat.le_of_lt hs)))),
      ← Nat.shiftLeft_add, Nat.mul_add, Nat.add_left_comm, ← Nat.add_assoc, Nat.or_assoc,
      ← shiftLeft_cons (Nat.mod_lt _ (Nat.two_pow_pos _)), Nat.mod_add_div, or_shiftLeft_eq_add hb E]

theorem mse_eq (n E : Nat) (hE : E < 2 ^ (2 * n + 6)) :
    expByte E (msExponentOffset (2 * n + 6)).2 >>> ((msExponentOffset (2 * n + 6)).1 - 2) = E / 2 ^ (2 * n + 4) := by
  obtain ⟨h2, h8, h⟩ := msExponentOffset_spec (x := 2 * n + 6) (Nat.succ_pos _) (by omega)
  generalize msExponentOffset (2 * n + 6) = p at h2 h8 h ⊢
  rw [← h] at hE
  -- the exponent ends `p.1` bits into its top byte `p.2`; the shift leaves its top two bits
  rw [expByte_top (Nat.lt_of_lt_of_le hE (Nat.pow_le_pow_right (by decide) (by omega))), Nat.shiftRight_eq_div_pow,
    ← div_pow_add, ← Nat.add_sub_assoc h2, h]
  rfl

namespace EncodeAux

theorem aligned_iff (n Tr : Nat) (hn : 0 < n) : (Buf.mk (4 * n) Tr).trailingBits % 8 = 0 ↔ n % 4 = 3 := by
  rw [Buf.trailingBits_of_len (n := n) rfl]; omega

/-- the combination byte is the five leading combination bits of the specification, two bits up -/
theorem comb_table : ∀ mse < 3, ∀ msd < 10,
    (if msd &&& 8 = 0 then
      ((mse &&& 2) <<< 5) ||| ((mse &&& 1) <<< 5) ||| ((msd &&& 4) <<< 2) ||| ((msd &&& 2) <<< 2) ||| ((msd &&& 1) <<< 2)
    else
      64 ||| 32 ||| ((mse &&& 2) <<< 3) ||| ((mse &&& 1) <<< 3) ||| ((msd &&& 1) <<< 2))
    = 4 * encodePair mse msd := by
  decide +kernel

theorem mask_table : ∀ y < 16, ∀ g < 32, ((y &&& 0x83) ||| (4 * g)) % 256 = y % 4 + 4 * g := by
  decide +kernel

/-- The arithmetic of `setAt_combination`: `P = 2^t`, `W = 2^w`, `L = 2^(8i)`.  Of `Tr + E·P` keep what lies below `L` and
    the two low bits of the last byte, put `g` above them; what is left of `E` is `E % W`. -/
theorem layout_arith (P W L Tr E g : Nat) (hL : L * 4 = W * P) (hT : Tr < P) :
    (Tr + E * P) % L + ((Tr + E * P) / L % 4 + 4 * g) * L = (g * W + E % W) * P + Tr := by
  have hP : 0 < P := Nat.lt_of_le_of_lt (Nat.zero_le _) hT
  -- below `W * P = L * 4` the number is `Tr` and the low part of `E`, read off as two fields or as `L` and two bits
  have hm : (Tr + E * P) % (L * 4) = Tr + P * (E % W) := by
    rw [hL, Nat.mul_comm W, Nat.mod_mul, Nat.add_mul_mod_self_right, Nat.mod_eq_of_lt hT, Nat.add_mul_div_right _ _ hP,
      Nat.div_eq_of_lt hT, Nat.zero_add]
  rw [Nat.mod_mul] at hm
  calc _ = (Tr + E * P) % L + L * ((Tr + E * P) / L % 4) + g * (L * 4) := by ring
    _ = _ := by rw [hm, hL]; ring

/-- The continuation (`w` bits of `E`) ends two bits into byte `i`: replacing all of that byte but those two bits by `4g`
    leaves the field `g`, the continuation and `Tr`. -/
theorem setAt_combination (len : Nat) {Tr E g t w i : Nat} (htw : t + w = 8 * i + 2) (hT : Tr < 2 ^ t)
    (hE : E < 2 ^ (w + 2)) (hg : g < 32) :
    (Buf.mk len (Tr + E * 2 ^ t)).setAt i (((Buf.mk len (Tr + E * 2 ^ t)).get i &&& 0x83) ||| 4 * g)
      = ⟨len, (g * 2 ^ w + E % 2 ^ w) * 2 ^ t + Tr⟩ := by
  have hN : (Buf.mk len (Tr + E * 2 ^ t)).bits < 2 ^ (8 * i + 4) := by
    rw [Nat.add_comm, show 8 * i + 4 = t + (w + 2) by rw [← Nat.add_assoc, htw]]; exact fields_lt hE hT
  have hN' : _ < 2 ^ (8 * (i + 1)) :=
    Nat.lt_of_lt_of_le hN (Nat.pow_le_pow_right (by decide) (Nat.add_le_add_left (by decide : 4 ≤ 8) _))
  have hy : (Tr + E * 2 ^ t) / 2 ^ (8 * i) < 16 := by
    rw [Nat.div_lt_iff_lt_mul (Nat.two_pow_pos _), Nat.mul_comm 16]; exact Nat.lt_of_lt_of_eq hN (Nat.pow_add 2 (8 * i) 4)
  have hL4 : 2 ^ (8 * i) * 4 = 2 ^ w * 2 ^ t := by
    rw [← Nat.pow_add 2 _ 2, ← Nat.pow_add, ← htw, Nat.add_comm]
  rw [Buf.setAt_top hN', Buf.get_top hN', mask_table _ hy _ hg]
  simp only
  rw [layout_arith _ _ _ Tr E g hL4 hT]

theorem orAt_sign (len : Nat) {N i : Nat} (hN : N < 2 ^ (8 * i + 7)) :
    (Buf.mk len N).orAt i SIGN_NEGATIVE = ⟨len, 2 ^ (8 * i + 7) + N⟩ := by
  rw [Buf.orAt, show SIGN_NEGATIVE % 256 = 1 <<< 7 from rfl, ← Nat.shiftLeft_add, Nat.add_comm 7, or_shiftLeft_eq_add hN,
    Nat.one_mul, Nat.add_comm]

end EncodeAux

theorem encodeCombinationFinite_spec (n : Nat) (hn : 0 < n) (Tr : Nat) (hT : Tr < 2 ^ (30 * n - 10)) (neg : Bool)
    (E : Nat) (hE : E < 3 * 2 ^ (2 * n + 4)) (msd : Nat) (hmsd : msd < 10) :
    encodeCombinationFinite ⟨4 * n, Tr⟩ neg E msd =
      ⟨4 * n, signBit ⟨n⟩ neg +
        ((if msd < 8 then E / 2 ^ (2 * n + 4) * 8 + msd else 24 + E / 2 ^ (2 * n + 4) * 2 + (msd - 8)) * 2 ^ (2 * n + 4)
          + E % 2 ^ (2 * n + 4)) * 2 ^ (30 * n - 10) + Tr⟩ := by
  have hE' : E < 2 ^ (2 * n + 4 + 2) :=
    Nat.lt_of_lt_of_le hE (by rw [Nat.pow_add 2 (2 * n + 4) 2, Nat.mul_comm]; exact Nat.mul_le_mul_left _ (by decide : 3 ≤ 2 ^ 2))
  have hmse : E / 2 ^ (2 * n + 4) < 3 := by
    rw [Nat.div_lt_iff_lt_mul (Nat.two_pow_pos _)]; exact hE
  generalize hg5 : (if msd < 8 then _ else _) = g5  -- the `if` of the statement
  have hg : g5 < 32 := hg5 ▸ Nat.lt_of_lt_of_le (decodePair_encodePair _ (Nat.le_of_lt_succ hmse) msd hmsd).1 (by decide)
  have ht : (Buf.mk (4 * n) Tr).trailingBits = 30 * n - 10 := Buf.trailingBits_of_len rfl
  obtain ⟨-, htw, hk⟩ := lastByte_layout n hn
  obtain ⟨di, s, j, r, hs, -, hr, ht8, hlen, hw⟩ := layout32 n hn
  obtain ⟨L, hL, hor⟩ := combLoops_orAt ⟨4 * n, Tr⟩ E hs hr ht8 hlen hw ht hT hE'
  dsimp only at hor  -- `(Buf.mk _ _).len`, `.bits` reduced, as in the goal below
  rw [encodeCombinationFinite_split, hL, ht]
  simp only [combTail, hor]
  rw [Buf.exponentBits_of_len (b := ⟨4 * n, _⟩) rfl, mse_eq n E hE', comb_table _ hmse _ hmsd, encodePair, hg5,
    setAt_combination _ htw hT hE' hg]
  cases neg
  · simp [signBit]
  · rw [if_pos rfl, orAt_sign, signBit, if_pos rfl, Fmt.k, hk, Nat.add_assoc _ _ Tr]
    -- the side condition of `orAt_sign`
    rw [show 8 * (4 * n - 1) + 7 = 30 * n - 10 + (2 * n + 4 + 5) by rw [← Nat.add_assoc, htw]]
    exact fields_lt (fields_lt (g := 5) hg (Nat.mod_lt _ (Nat.two_pow_pos _))) hT

end Decstr.Proofs

#print axioms Decstr.Proofs.encodeCombinationFinite_spec
