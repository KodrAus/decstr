import Decstr.Proofs.ExecBasic
import Decstr.Proofs.EncodeComb
import Decstr.Proofs.Decode
/-!
# Proofs.ExecComb — `combination.rs` and `exponent.rs`: the checked combination-field codec and the classifiers
never reach a panic site and compute what the pure model computes
-/
namespace Decstr.Proofs.Exec
open Decstr.Model Decstr.Model.Exec

/-! ## the last byte: classifiers, infinity, NaN — any non-empty buffer -/

theorem lastIndexC_eq {c : Bool} {site : String} {b : Buf} (h : 0 < b.len) : lastIndexC c site b = .ok (b.len - 1) := by
  unfold lastIndexC
  rw [subUsize_ok h, bind_ok, req_pos (Nat.sub_lt h Nat.one_pos), bind_ok]

theorem lastC_eq {c : Bool} {site : String} {b : Buf} (h : 0 < b.len) : lastC c site b = .ok b.last := by
  unfold lastC
  rw [lastIndexC_eq h, bind_ok]; rfl

theorem isFiniteC_eq {c : Bool} {b : Buf} (h : 0 < b.len) : isFiniteC c b = .ok (isFinite b) := by
  unfold isFiniteC; rw [lastC_eq h, bind_ok]; rfl
theorem isInfiniteC_eq {c : Bool} {b : Buf} (h : 0 < b.len) : isInfiniteC c b = .ok (isInfinite b) := by
  unfold isInfiniteC; rw [lastC_eq h, bind_ok]; rfl
theorem isNanC_eq {c : Bool} {b : Buf} (h : 0 < b.len) : isNanC c b = .ok (isNan b) := by
  unfold isNanC; rw [lastC_eq h, bind_ok]; rfl
theorem isQuietNanC_eq {c : Bool} {b : Buf} (h : 0 < b.len) : isQuietNanC c b = .ok (isQuietNan b) := by
  unfold isQuietNanC; rw [lastC_eq h, bind_ok]; rfl
theorem isSignalingNanC_eq {c : Bool} {b : Buf} (h : 0 < b.len) : isSignalingNanC c b = .ok (isSignalingNan b) := by
  unfold isSignalingNanC; rw [lastC_eq h, bind_ok]; rfl
theorem isSignNegativeC_eq {c : Bool} {b : Buf} (h : 0 < b.len) : isSignNegativeC c b = .ok (isSignNegative b) := by
  unfold isSignNegativeC; rw [lastC_eq h, bind_ok]; rfl

theorem encodeInfinityC_eq {c : Bool} {b : Buf} (h : 0 < b.len) {neg : Bool} :
    encodeInfinityC c b neg = .ok (encodeInfinity b neg) := by
  unfold encodeInfinityC; rw [lastIndexC_eq h, bind_ok]; rfl

theorem encodeNanC_eq {c : Bool} {b : Buf} (h : 0 < b.len) {neg sig : Bool} :
    encodeNanC c b neg sig = .ok (encodeNan b neg sig) := by
  unfold encodeNanC; rw [lastIndexC_eq h, bind_ok]; rfl

theorem emaxC_eq {r : ExpRep} {c : Bool} {n : Nat} (hr : r.isI32 = true → n ≤ 5) :
    emaxC r c (32 * n) = .ok (emaxOf (32 * n)) := by
  have hpow : InExp r (2 ^ (32 * n / 16 + 3)) := .of_small hr fun h5 => by
    have := emaxOf_le h5; unfold emaxOf at this; omega
  have hmul : InExp r (emaxOf (32 * n)) := .of_small hr fun h5 => by have := emaxOf_le h5; omega
  unfold emaxC
  refine ite_eq_of (fun hi => ?_) fun _ => mulE_ok hmul
  rw [resI32_ok (hpow hi)]
  exact mulE_ok hmul

theorem biasC_eq {r : ExpRep} {c : Bool} {n : Nat} (hr : r.isI32 = true → n ≤ 5) {p : Nat} (hp : p ≤ 9 * n) :
    biasC r c (32 * n) p = .ok (biasOf (32 * n) p) := by
  have h1 : InExp r (emaxOf (32 * n) + (p : Int)) := .of_small hr fun h5 => by
    have := emaxOf_le h5; omega
  have h2 : InExp r (emaxOf (32 * n) + (p : Int) - 2) := .of_small hr fun h5 => by
    have := emaxOf_le h5; omega
  unfold biasC
  rw [emaxC_eq hr, bind_ok, addE_ok h1, bind_ok, subE_ok h2]; rfl

theorem addBiasC_eq {r : ExpRep} {c : Bool} {b : Buf} {n : Nat} (hn : 0 < n) (hl : b.len = 4 * n)
    (hr : r.isI32 = true → n ≤ 5) {exp : Int} (h : InExp r (biasOf b.widthBits b.precision + exp)) :
    addBiasC r c b exp = .ok (biasOf b.widthBits b.precision + exp) := by
  unfold addBiasC
  rw [precisionC_eq hn hl, bind_ok]
  rw [Buf.widthBits_of_len hl] at h ⊢
  rw [biasC_eq hr (Buf.precision_of_len hl ▸ Nat.sub_le _ _), bind_ok, addE_ok h]

theorem subBiasC_eq {r : ExpRep} {c : Bool} {b : Buf} {n : Nat} (hn : 0 < n) (hl : b.len = 4 * n)
    (hr : r.isI32 = true → n ≤ 5) {v : Nat} (hv : r.isI32 = true → v < 2 ^ 31) :
    subBiasC r c b v = .ok (v - biasOf b.widthBits b.precision) := by
  have hp := Buf.precision_of_len hl
  unfold subBiasC
  rw [precisionC_eq hn hl, bind_ok, Buf.widthBits_of_len hl, biasC_eq hr (hp ▸ Nat.sub_le _ _), bind_ok, subE_ok fun hi => by
    have hn5 := hr hi; have := emaxOf_le hn5; have := hv hi; unfold biasOf; exact fitsI32_iff.2 (by omega)]


/-- a biased exponent of the `i32` types has at most 16 bits (`n ≤ 5`): it is a non-negative `i32` -/
theorem lt_i32_of_lt_pow {r : ExpRep} {n : Nat} (hr : r.isI32 = true → n ≤ 5) {E : Nat} (h : E < 2 ^ (2 * n + 6))
    (hi : r.isI32 = true) : E < 2 ^ 31 :=
  Nat.lt_of_lt_of_le h (Nat.pow_le_pow_right (by decide) (by have := hr hi; omega))

/-- `exponent[i]` for a non-negative biased exponent: an `i32` that is not negative is its own `to_le_bytes` value, and
    its `[u8; 4]` is only indexed below 4 -/
theorem expByteC_eq {r : ExpRep} {site : String} {E i : Nat} (hE : r.isI32 = true → E < 2 ^ 31)
    (hi : r.isI32 = true → i < 4) : expByteC r site (E : Int) i = .ok (expByte E i) := by
  have hm : r.isI32 = true → ((E : Int) % 4294967296).toNat = E := fun h => by
    rw [Int.emod_eq_of_lt (Int.natCast_nonneg E) (by have := hE h; omega), Int.toNat_natCast]
  unfold expByteC expByte
  cases r with
  | i32Fixed => simp only [hi rfl, if_true, hm rfl]
  | i32Dyn => simp only [hi rfl, if_true, hm rfl]
  | big => simp only [Int.natCast_nonneg, if_true, Int.toNat_natCast]

theorem writeExpAlignedC_eq {r : ExpRep} {E : Nat} (hE : r.isI32 = true → E < 2 ^ 31) {k di ei : Nat} {b : Buf}
    (hidx : di + k ≤ b.len) (hfix : r.isI32 = true → k + ei ≤ 4) :
    writeExpAlignedC r (E : Int) k di ei b = .ok (writeExpAligned E k di ei b) := by
  induction k generalizing di ei b with
  | zero => rfl
  | succ k ih =>
    unfold writeExpAlignedC writeExpAligned
    simp only [expByteC_eq hE fun h => Nat.lt_of_lt_of_le (Nat.lt_add_of_pos_left k.succ_pos) (hfix h),
      setAtC_ok (Nat.lt_of_le_of_lt (Nat.le_add_right di k) hidx)]
    exact ih ((Nat.add_right_comm di 1 k).trans_le hidx) fun h => (Nat.add_right_comm k ei 1).trans_le (hfix h)

theorem writeExpShiftedC_eq {r : ExpRep} {c : Bool} {E : Nat} (hE : r.isI32 = true → E < 2 ^ 31) {s : Nat} (hs0 : 0 < s) (hs8 : s < 8)
    {k di ei : Nat} {b : Buf} (hidx : di + k < b.len) (hfix : r.isI32 = true → k + ei ≤ 4) :
    writeExpShiftedC r c (E : Int) s k di ei b = .ok (writeExpShifted E s k di ei b) := by
  induction k generalizing di ei b with
  | zero => rfl
  | succ k ih =>
    have he : di + 1 + k < b.len := (Nat.add_right_comm di 1 k).trans_lt hidx
    have hd : di + 1 < b.len := Nat.lt_of_le_of_lt (Nat.le_add_right _ k) he
    unfold writeExpShiftedC writeExpShifted
    simp only [expByteC_eq hE fun h => Nat.lt_of_lt_of_le (Nat.lt_add_of_pos_left k.succ_pos) (hfix h), shAmt_ok hs8,
      shAmt_ok (Nat.sub_lt (n := 8) (by decide) hs0), orAtC_ok (Nat.lt_of_succ_lt hd), orAtC_ok (b := b.orAt di _) hd]
    exact ih he fun h => (Nat.add_right_comm k ei 1).trans_le (hfix h)

/-- the top of the exponent field of a `4n`-byte buffer (`2n + 6` exponent bits): what both codec proofs need of it -/
theorem msExponentOffsetC_spec (c : Bool) (n : Nat) : ∃ off idx, msExponentOffset (2 * n + 6) = (off, idx) ∧
    msExponentOffsetC c (2 * n + 6) = .ok (off, idx) ∧ 2 ≤ off ∧ off - 2 < 8 ∧ (n ≤ 5 → idx < 4) := by
  have hC : msExponentOffsetC c (2 * n + 6) = .ok (msExponentOffset (2 * n + 6)) := by
    unfold msExponentOffsetC msExponentOffset
    refine ok_ite (fun h => ?_) fun _ => rfl
    rw [subUsize_ok (Nat.div_pos (Nat.le_of_dvd (Nat.succ_pos _) (Nat.dvd_of_mod_eq_zero h)) (by decide)), bind_ok]
  obtain ⟨h2, h8, h⟩ := msExponentOffset_spec (x := 2 * n + 6) (Nat.succ_pos _) (by omega)
  generalize msExponentOffset (2 * n + 6) = mo at hC h2 h8 h
  exact ⟨mo.1, mo.2, rfl, hC, h2, Nat.lt_of_lt_of_le (Nat.sub_lt_of_pos_le (by decide) h2) h8, fun _ => by omega⟩

theorem combLoopsC_eq {r : ExpRep} {c : Bool} {b : Buf} {n : Nat} (hn : 0 < n) (hl : b.len = 4 * n)
    (hr : r.isI32 = true → n ≤ 5) {E : Nat} (hE : r.isI32 = true → E < 2 ^ 31) :
    combLoopsC r c (E : Int) b b.trailingBits (b.len - 1) = .ok (combLoops b E) := by
  obtain ⟨-, g1, g2⟩ := expField_geom hn hl
  have hk : r.isI32 = true → b.len - 1 - b.trailingBits / 8 ≤ 4 := fun h => Nat.le_trans (g2 (hr h)) (by decide)
  have hidx := Nat.le_of_eq g1
  unfold combLoops combLoopsC
  exact ok_ite (fun _ => writeExpAlignedC_eq hE (Nat.le_of_succ_le hidx) hk) fun h =>
    writeExpShiftedC_eq hE (Nat.pos_of_ne_zero h) (Nat.mod_lt _ (by decide)) hidx hk

theorem combLoops_facts {b : Buf} {n : Nat} (hn : 0 < n) (hl : b.len = 4 * n) (E : Nat) :
    ∃ b1, b1.len = b.len ∧ combLoops b E = (b1, b.len - 1, b.len - 1 - b.trailingBits / 8) := by
  have hdi : b.trailingBits / 8 + (b.len - 1 - b.trailingBits / 8) = b.len - 1 :=
    Nat.eq_sub_of_add_eq (expField_geom hn hl).2.1
  unfold combLoops
  split
  · obtain ⟨h1, h2⟩ := writeExpAligned_facts E (b.len - 1 - b.trailingBits / 8) (b.trailingBits / 8) 0 b
    exact ⟨_, h1, Prod.ext rfl (by rw [h2, hdi, Nat.zero_add])⟩
  · obtain ⟨h1, h2⟩ := writeExpShifted_facts E (b.trailingBits % 8) (b.len - 1 - b.trailingBits / 8) (b.trailingBits / 8) 0 b
    exact ⟨_, h1, Prod.ext rfl (by rw [h2, hdi, Nat.zero_add])⟩

/-- **`encode_combination_finite`**; `0 ≤ bias + exp < 3·2^(2n+4)` is the exponent range of the width -/
theorem encodeCombinationFiniteC_eq {r : ExpRep} {c : Bool} {b : Buf} {n : Nat} (hn : 0 < n) (hl : b.len = 4 * n)
    (hr : r.isI32 = true → n ≤ 5) {neg : Bool} {exp : Int} {msd : Nat}
    (hlo : 0 ≤ biasOf b.widthBits b.precision + exp)
    (hhi : biasOf b.widthBits b.precision + exp < 3 * 2 ^ (2 * n + 4)) :
    encodeCombinationFiniteC r c b neg exp msd =
      .ok (encodeCombinationFinite b neg (biasOf b.widthBits b.precision + exp).toNat msd) := by
  -- the biased exponent as a natural number `E`: the loops, the bytes `exponent[i]` and the two leading exponent bits
  -- are all arithmetic on `E`, and with `E` a variable the side conditions are about `E < 3·2^(2n+4)` alone
  obtain ⟨E, hEq⟩ : ∃ E : Nat, biasOf b.widthBits b.precision + exp = E := ⟨_, (Int.toNat_of_nonneg hlo).symm⟩
  have hE3 : E < 3 * 2 ^ (2 * n + 4) := Int.ofNat_lt.1 (hEq ▸ hhi)
  have hE' : E < 2 ^ (2 * n + 6) := by  -- `3·P < 4·P` for `P = 2^(2n+4)`; `omega` is slow with powers in sight
    rw [Nat.pow_add' 2 _ 2]
    exact Nat.lt_of_lt_of_le hE3 (Nat.mul_le_mul_right _ (by decide : 3 ≤ 4))
  have hE31 := lt_i32_of_lt_pow hr hE'
  have hb := addBiasC_eq (c := c) hn hl hr (exp := exp) fun hi => by
    rw [hEq]; exact fitsI32_iff.2 (by have := hE31 hi; omega)
  rw [hEq] at hb ⊢
  rw [Int.toNat_natCast]
  obtain ⟨off, idx, hmo, hmoC, hoff2, hsh, hidx⟩ := msExponentOffsetC_spec c n
  have hmse : expByte E idx >>> (off - 2) ≠ 3 := by
    have := mse_eq n E hE'
    rw [hmo] at this
    rw [this]
    exact Nat.ne_of_lt ((Nat.div_lt_iff_lt_mul (Nat.two_pow_pos _)).2 hE3)
  obtain ⟨-, -, g2⟩ := expField_geom hn hl
  obtain ⟨b1, hl1, hL⟩ := combLoops_facts hn hl E
  -- after the loops every store is to the last byte, and none changes the length
  have hpos : 0 < b.len := hl ▸ Nat.mul_pos (by decide) hn
  have hlt : b.len - 1 < b1.len := hl1.symm ▸ Nat.sub_lt hpos Nat.one_pos
  unfold encodeCombinationFiniteC
  rw [hb, bind_ok, dbg_pos (Int.natCast_nonneg E), bind_ok, exponentBitsC_eq, bind_ok, trailingBitsC_eq hn hl, bind_ok,
    subUsize_ok hpos, bind_ok, combLoopsC_eq hn hl hr hE31, hL, bind_ok, encodeCombinationFinite_split, hL]
  dsimp only
  rw [expByteC_eq hE31 fun h => Nat.lt_of_le_of_lt (g2 (hr h)) (by decide), bind_ok, orAtC_ok hlt, bind_ok,
    Buf.exponentBits_of_len hl, hmoC, bind_ok]
  dsimp only
  rw [expByteC_eq hE31 fun h => hidx (hr h), bind_ok, subU32_ok hoff2, bind_ok, shAmt_ok hsh, bind_ok,
    dbg_pos hmse, bind_ok, req_pos (p := msd &&& 8 = 0 ∨ msd &&& 8 = 8) (and_bit_cases msd 3), bind_ok, getC_ok (b := b1.orAt _ _) hlt,
    bind_ok, setAtC_ok (b := b1.orAt _ _) hlt, bind_ok]
  have heb1 : ∀ i v, (b1.orAt i v).exponentBits = 2 * n + 6 := fun _ _ => Buf.exponentBits_of_len (hl1.trans hl)
  unfold combTail
  simp only [heb1, hmo]
  exact ok_ite (fun _ => orAtC_ok hlt) fun _ => rfl


theorem readExpAlignedC_eq {b : Buf} {mse k di : Nat} (h : di + k ≤ b.len) :
    readExpAlignedC b mse (b.len - 1) k di = .ok (readExpAligned b mse k di, k) := by
  induction k generalizing di with
  | zero => rfl
  | succ k ih =>
    have hd : di < b.len := Nat.lt_of_le_of_lt (Nat.le_add_right di k) h
    unfold readExpAlignedC readExpAligned
    simp only [getC_ok hd, ih ((Nat.add_right_comm di 1 k).trans_le h)]
    split
    · rfl
    · rw [if_pos (Nat.le_antisymm (Nat.le_sub_one_of_lt hd) (Nat.le_of_not_lt ‹_›))]

theorem readExpShiftedC_spec (c : Bool) (b : Buf) (mse : Nat) {s : Nat} (maxEi : Nat) (hs0 : 0 < s) (hs8 : s < 8)
    (k di ei : Nat) :
    ∃ cnt, cnt ≤ k ∧ readExpShiftedC c b mse s maxEi (b.len - 1) k di ei = .ok (readExpShifted b mse s maxEi k di ei, cnt) := by
  induction k generalizing di ei with
  | zero => exact ⟨0, Nat.le_refl _, rfl⟩
  | succ k ih =>
    obtain ⟨cnt, hc, hi⟩ := ih (di + 1) (ei + 1)
    unfold readExpShiftedC readExpShifted
    by_cases h : di < b.len - 1
    · have h' := Nat.add_lt_of_lt_sub h
      refine ⟨cnt + 1, Nat.succ_le_succ hc, ?_⟩
      simp only [getC_ok (Nat.lt_of_succ_lt h'), getC_ok h', shAmt_ok hs8, shAmt_ok (Nat.sub_lt (n := 8) (by decide) hs0),
        hi]
      by_cases h1 : di + 1 < b.len - 1
      · simp only [↓if_pos h1]
      · simp only [↓if_neg h1, ↓if_pos (Nat.le_antisymm h (Nat.le_of_not_lt h1))]
    · -- `¬ di < b.len - 1`: neither reading arm is taken (`↓`: rewrite before the arms that go are simplified)
      simp only [↓if_neg (mt Nat.lt_of_succ_lt h), ↓if_neg (mt Nat.le_of_eq h)]
      split
      · exact ⟨1, Nat.le_add_left 1 k, rfl⟩
      · exact ⟨0, Nat.zero_le _, rfl⟩

theorem wrapI32_small {v : Nat} (h : v < 2 ^ 31) : wrapI32 ((v : Int) % 4294967296) = v := by
  unfold wrapI32
  omega

/-- **`decode_combination_finite`**, whatever the buffer holds (finite, infinite, NaN, non-canonical).  For the `i32`
    exponent types the width is at most 160 bits: at most 4 bytes reach `i32::from_le_bytes`. -/
theorem decodeCombinationFiniteC_eq {r : ExpRep} {c : Bool} {b : Buf} {n : Nat} (h : WF b n)
    (hr : r.isI32 = true → n ≤ 5) : decodeCombinationFiniteC r c b = .ok (unbiasedExponent b) := by
  have heb := Buf.exponentBits_of_len h.len
  obtain ⟨off, idx, hmo, hmoC, hoff2, hsh, _⟩ := msExponentOffsetC_spec c n
  obtain ⟨-, g1, g2⟩ := expField_geom h.pos h.len
  unfold decodeCombinationFiniteC
  rw [exponentBitsC_eq, bind_ok, trailingBitsC_eq h.pos h.len, bind_ok, subUsize_ok h.len_pos, bind_ok, heb, hmoC, bind_ok]
  dsimp only
  rw [getC_ok (Nat.sub_lt h.len_pos Nat.one_pos), bind_ok, subU32_ok hoff2, bind_ok, shAmt_ok hsh, bind_ok]
  have hread : ∃ cnt, cnt ≤ b.len - 1 - b.trailingBits / 8 + 2 ∧
      readExpC c b ((mseMsdOf (b.get (b.len - 1))).1 <<< (off - 2) % 256) idx (b.len - 1) b.trailingBits
        = .ok ((decodeCombinationFinite b).1, cnt) := by
    rw [dcf_unfold, heb, hmo]
    unfold readExpC
    split
    · exact ⟨_, Nat.le_succ _, readExpAlignedC_eq (Nat.le_of_eq g1)⟩
    · exact readExpShiftedC_spec c b _ idx (Nat.pos_of_ne_zero ‹_›) (Nat.mod_lt _ (by decide)) _ _ 0
  obtain ⟨cnt, hcnt, hrd⟩ := hread
  rw [hrd, bind_ok]
  dsimp only
  have hsmall := lt_i32_of_lt_pow hr (biased_lt_pow h)
  have hfrom : fromLeBytesC r (decodeCombinationFinite b).1 cnt = .ok ((decodeCombinationFinite b).1 : Int) := by
    unfold fromLeBytesC
    cases hi : r.isI32 with
    | false => rfl
    | true =>
      have : cnt ≤ 4 := Nat.le_trans hcnt (Nat.add_le_add_right (g2 (hr hi)) 2)
      simp only [if_true, this]
      rw [wrapI32_small (hsmall hi)]
  rw [hfrom, bind_ok, dbg_pos (Int.natCast_nonneg _), bind_ok,
    subBiasC_eq h.pos h.len hr hsmall, bind_ok,
    unbiasedExponent_eq, dcf_unfold]
  rfl

end Decstr.Proofs.Exec

#print axioms Decstr.Proofs.Exec.encodeCombinationFiniteC_eq
#print axioms Decstr.Proofs.Exec.decodeCombinationFiniteC_eq
