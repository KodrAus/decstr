import Decstr.Model.ExecConvert
import Decstr.Proofs.ExecSig
import Decstr.Proofs.ExecComb
import Decstr.Props.C02
import Decstr.Props.C08
/-!
# Proofs.ExecFmt — `decimal_to_fmt`: no panic site is reachable for any well-formed buffer, in either profile
-/
namespace Decstr.Proofs.Exec
open Decstr.Model Decstr.Model.Exec Decstr.Spec

theorem writeDecimalDigitsC_eq {c : Bool} {d : List Nat} {total written : Nat} (h : written ≤ total) :
    writeDecimalDigitsC c d total written = .ok (writeDecimalDigits d total written) := by
  unfold writeDecimalDigitsC writeDecimalDigits
  refine ok_ite (fun _ => rfl) fun h1 => ok_ite (fun _ => rfl) fun _ => ?_
  rw [subUsize_ok h, bind_ok, req_pos (Nat.sub_le_iff_le_add'.2 (Nat.le_of_not_le h1)), bind_ok]

theorem writeWithPointC_afterPoint {c : Bool} (total : Nat) (groups : List (List Nat)) (w : Nat) :
    writeWithPointC c total groups w true = .ok (writeWithPoint total groups w true) := by
  induction groups generalizing w with
  | nil => rfl
  | cons d rest ih =>
    unfold writeWithPointC writeWithPoint
    rw [if_pos rfl, if_pos rfl, ih]

/-- the `expect("ran out of digits before the decimal point")` is unreachable when there are more digits than
    integer digits to write -/
theorem writeWithPointC_beforePoint {c : Bool} {total : Nat} {groups : List (List Nat)} {w : Nat} (hw : w ≤ total)
    (hlt : total < w + groups.flatten.length) :
    writeWithPointC c total groups w false = .ok (writeWithPoint total groups w false) := by
  induction groups generalizing w with
  | nil => exact absurd hlt (Nat.not_lt.2 hw)
  | cons d rest ih =>
    unfold writeWithPointC writeWithPoint
    rw [if_neg Bool.false_ne_true, if_neg Bool.false_ne_true, writeDecimalDigitsC_eq hw]
    rw [List.flatten_cons, List.length_append] at hlt
    unfold writeDecimalDigits
    by_cases h1 : w + d.length ≤ total
    · simp only [↓if_pos h1, ih h1 (Nat.add_assoc .. ▸ hlt)]
    · by_cases h2 : w = total
      · simp only [↓if_neg h1, ↓if_pos h2, writeWithPointC_afterPoint]
      · simp only [↓if_neg h1, ↓if_neg h2, writeWithPointC_afterPoint]

theorem writeAllAsScientificC_eq (T : Ty) {c : Bool} (lz : LeadingZeroes) (declets : List (List Nat)) (exponent : Int) :
    writeAllAsScientificC T c lz declets exponent = .ok (writeAllAsScientific T lz declets exponent) := by
  unfold writeAllAsScientificC writeAllAsScientific
  cases lz.partialDeclet with
  | none => rfl
  | some ds =>
    dsimp only
    rw [writeDecimalDigitsC_eq (Nat.zero_le 1)]
    -- what is left are the pure case distinctions on what `write_decimal_digits` returned, the same on both sides
    rcases writeDecimalDigits ds 1 0 with ⟨o, w, _ | _⟩
    · cases declets <;> rfl
    · rfl

/-- the finite arm of `decimal_to_fmt` on the digits of a width-`32n` decimal.  `hexp`: for the `i32` exponent types
    the exponent is an `i32`; `hsz`: the digit count `9n` fits an `i32` (2147483647 = `i32::MAX`; `usize → i32`
    conversion at convert.rs:259). -/
theorem fmtFiniteC_eq {T : Ty} {c : Bool} {n msd : Nat} {declets : List (List Nat)} (h : DigitsOK n msd declets)
    {exponent : Int} (hexp : T.expIsI32 = true → fitsI32 exponent) (hsz : 9 * n ≤ 2147483647) :
    fmtFiniteC T c (9 * n - 2) msd declets exponent = .ok (fmtFinite T (9 * n - 2) msd declets exponent) := by
  obtain ⟨S, hsk⟩ : ∃ S, SkipOK (9 * n) S _ _ := ⟨_, skip_spec n msd declets h⟩
  unfold fmtFiniteC fmtFinite
  generalize skipLeadingZeroes msd declets = sk at hsk ⊢
  obtain ⟨lz, rest⟩ := sk
  dsimp only at hsk ⊢
  refine ok_ite (fun _ => rfl) fun _ => ok_ite (fun hneg => ?_) fun _ => writeAllAsScientificC_eq T lz rest exponent
  have hfit : fitsI32 exponent := (Bool.or_eq_true_iff.1 hneg.2).elim hexp fun hin =>
    (Bool.and_eq_true_iff.1 hin).imp of_decide_eq_true of_decide_eq_true
  -- `non_zero_digits`, `9n − skipped`, is the length of `S`: it and its sum with a negative `i32` are `i32`s
  have hcount := hsk.count
  have hle : lz.skipped ≤ 9 * n := hcount ▸ Nat.le_add_right ..
  have hS : (S.length : Int) ≤ i32Max := Int.ofNat_le.2 ((Nat.le_add_left ..).trans (hcount ▸ hsz))
  rw [Nat.sub_add_cancel (Nat.le_trans (by decide) (Nat.mul_le_mul_left 9 h.pos) : 2 ≤ 9 * n), subUsize_ok hle,
    ← Int.ofNat_sub hle, Nat.sub_eq_of_eq_add' hcount.symm]
  dsimp only
  rw [if_pos hS, resI32_ok ⟨hfit.1.trans (Int.le_add_of_nonneg_left (Int.natCast_nonneg _)),
    (add_le_of_nonpos_right hneg.1.le).trans hS⟩]
  refine ok_ite (fun hpos => ?_) fun hpos => ?_
  · apply writeWithPointC_beforePoint (Nat.zero_le _)
    -- `erw`: `fmtFiniteC` and `fmtFinite` each carry their own copy of the `match` on the partial declet
    erw [groups_flatten hsk, Nat.zero_add, Int.toNat_lt hpos.le]
    exact add_lt_of_neg_right _ hneg.1
  · rw [dbg_pos (not_lt.1 hpos).eq_or_lt, Int.toNat_natCast]
    refine ok_ite (fun hc => ?_) fun _ => writeAllAsScientificC_eq T lz rest exponent
    rw [req_pos hc.1]

theorem unbiasedExponent_msd_le {b : Buf} {n : Nat} (h : WF b n) : (unbiasedExponent b).2 ≤ 9 :=
  Nat.le_of_add_le_add_right (Decstr.Proofs.digitsOK h).msd.2

/-- the third case of `C08_partition` -/
theorem isNan_of_not_finite_infinite {b : Buf} (hf : ¬ isFinite b = true) (hi : ¬ isInfinite b = true) : isNan b = true := by
  rcases Props.C08.C08_partition b with h | h | h
  · exact absurd h.1 hf
  · exact absurd h.2.1 hi
  · exact h.2.2

theorem toTextC_eq {T : Ty} {c : Bool} {b : Buf} {n : Nat} (h : WF b n) (hT : T.expIsI32 = true → n ≤ 5)
    (hsz : 9 * n ≤ 2147483647) : toTextC T c b = .ok (toText T b) := by
  have hn := h.pos
  have hl := h.len
  have hlen := h.len_pos
  have hr := expRep_le hT
  unfold toTextC toText
  rw [isSignNegativeC_eq hlen, bind_ok, isFiniteC_eq hlen, bind_ok]
  refine ok_ite (fun hfin => ?_) fun hfin => ?_
  · rw [decodeCombinationFiniteC_eq h hr, bind_ok, bcdToAsciiC_eq ((unbiasedExponent_msd_le h).trans (by decide)), bind_ok,
      decodeDecletsC_eq hn hl, bind_ok, precisionC_eq hn hl, bind_ok, Buf.precision_of_len hl]
    have hd := Decstr.Proofs.digitsOK h
    have hexp : T.expIsI32 = true → fitsI32 (unbiasedExponent b).1 := fun hi => by
      obtain ⟨h1, h2, _⟩ := Decstr.Proofs.exponent_small T h hT hfin hi
      exact ⟨Int.le_trans (by decide) h1, h2.trans (by decide)⟩
    rw [fmtFiniteC_eq hd hexp hsz, bind_ok]
  · rw [isInfiniteC_eq hlen, bind_ok]
    refine ok_ite (fun _ => rfl) fun hinf => ?_
    have hnan := isNan_of_not_finite_infinite hfin hinf
    rw [isNanC_eq hlen, bind_ok, dbg_pos hnan, bind_ok, isQuietNanC_eq hlen, bind_ok,
      decodeDecletsC_eq hn hl, bind_ok]

end Decstr.Proofs.Exec

#print axioms Decstr.Proofs.Exec.toTextC_eq
