import Decstr.Proofs.Basic
import Decstr.Proofs.Digits
import Decstr.Proofs.Bits
import Decstr.Proofs.SpecLemmas
import Decstr.Proofs.ParseLemmas
import Decstr.Proofs.Widths
import Decstr.Proofs.Format
import Decstr.Proofs.Decode
import Decstr.Proofs.Encode
import Decstr.Proofs.ToInt
import Decstr.Proofs.ToFloat
import Decstr.Proofs.RneBounds
import Decstr.Proofs.Stream
import Decstr.Proofs.Parser
import Decstr.Proofs.Grammar
import Decstr.Proofs.Print
import Decstr.Proofs.Chunks
import Decstr.Proofs.JudgeLemmas
import Decstr.Proofs.JudgeParse
import Decstr.Proofs.JudgeText
import Decstr.Proofs.JudgeStable
import Decstr.Proofs.ExecEncodeApi
import Decstr.Proofs.ExecDecodeApi
import Decstr.Proofs.ExecBasic
import Decstr.Proofs.ExecClosure
import Decstr.Proofs.ExecComb
import Decstr.Proofs.ExecFmt
import Decstr.Proofs.ExecParsed
import Decstr.Proofs.ExecParsedOK
import Decstr.Proofs.ExecSig
import Decstr.Proofs.ExecText
import Decstr.Proofs.RneCorrect
import Decstr.Proofs.RneCorrectRat
import Decstr.Proofs.ExecLazy
import Decstr.Proofs.ExecLazyRefine
