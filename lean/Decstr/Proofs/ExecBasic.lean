import Decstr.Model.Exec
import Decstr.Proofs.Bits
/-!
# Proofs.ExecBasic — the primitive checks of the checked model succeed under their side conditions

Every `fC … = .ok (f …)` proof goes by the same few rules: a check whose side condition holds is `.ok` of the pure value,
`bind_ok` moves on to the continuation, a conditional is compared with the pure conditional on the same test arm by arm.
Contracts: `(hn : 0 < n) (hl : b.len = 4 * n)` where only the length matters, `WF b n` where the buffer must be a number
below `2^(32n)` as well; `r.isI32 = true → n ≤ 5` is the width the `i32` exponent types can hold.  The profile `c`, the
site label and whatever a hypothesis determines are implicit; a statement used through `obtain` keeps `c` explicit, and
what only the conclusion mentions is explicit where the lemma has no hypothesis or is used as a function of it.
-/
namespace Decstr.Proofs.Exec
open Decstr.Model Decstr.Model.Exec Decstr.Spec

theorem bind_ok {α β : Type} (a : α) (f : α → Chk β) : (Except.ok a >>= f) = f a := rfl
theorem bind_error {α β : Type} (e : String) (f : α → Chk β) : ((Except.error e : Chk α) >>= f) = .error e := rfl
theorem pure_eq {α : Type} (a : α) : (pure a : Chk α) = .ok a := rfl

theorem bind_eq_ok {α β : Type} {a : Chk α} {f : α → Chk β} {r : β} (h : (a >>= f) = .ok r) :
    ∃ x, a = .ok x ∧ f x = .ok r := by
  cases a with
  | error e => cases h
  | ok x => exact ⟨x, rfl, h⟩

theorem bind_eq_of_ok {α β : Type} {x : Chk α} {a : α} {f : α → Chk β} {r : Chk β} (hx : x = .ok a) (hf : f a = r) :
    (x >>= f) = r := by rw [hx]; exact hf

theorem ite_eq_of {α : Type} {c : Prop} [Decidable c] {x y r : α} (hx : c → x = r) (hy : ¬ c → y = r) :
    (if c then x else y) = r := by
  split
  · exact hx ‹_›
  · exact hy ‹_›

theorem ok_ite {α : Type} {c : Prop} [Decidable c] {x y : Chk α} {a b : α} (hx : c → x = .ok a) (hy : ¬ c → y = .ok b) :
    (if c then x else y) = .ok (if c then a else b) := by
  split
  · exact hx ‹_›
  · exact hy ‹_›

theorem req_pos {site : String} {p : Prop} [Decidable p] (h : p) : req site p = .ok () := by
  simp [req, h]
theorem dbg_pos {c : Bool} {site : String} {p : Prop} [Decidable p] (h : p) : dbg c site p = .ok () := by
  simp [dbg, h]
theorem subUsize_ok {c : Bool} {s : String} {a b : Nat} (h : b ≤ a) : subUsize c s a b = .ok (a - b) := by
  simp [subUsize, h]
theorem subU32_ok {c : Bool} {s : String} {a b : Nat} (h : b ≤ a) : subU32 c s a b = .ok (a - b) := by
  simp [subU32, h]
theorem subU8_ok {c : Bool} {s : String} {a b : Nat} (h : b ≤ a) : subU8 c s a b = .ok (a - b) := by
  simp [subU8, h]
theorem addU8_ok {c : Bool} {s : String} {a b : Nat} (h : a + b < 256) : addU8 c s a b = .ok (a + b) := by
  simp [addU8, h]
/-- `fitsI32` in numerals, the form `omega` reads -/
theorem fitsI32_iff {x : Int} : fitsI32 x ↔ -2147483648 ≤ x ∧ x ≤ 2147483647 := Iff.rfl

theorem resI32_ok {c : Bool} {s : String} {r : Int} (h : fitsI32 r) : resI32 c s r = .ok r := by
  simp [resI32, h]
theorem shAmt_ok {c : Bool} {site : String} {bits s : Nat} (h : s < bits) : shAmt c site bits s = .ok s := by
  simp [shAmt, h]
theorem idx_ok {site : String} {l : List Nat} {i : Nat} (h : i < l.length) : idx site l i = .ok (l.getD i 0) := by
  simp [idx, h]
theorem getC_ok {site : String} {b : Buf} {i : Nat} (h : i < b.len) : getC site b i = .ok (b.get i) := by
  simp [getC, h]
theorem orAtC_ok {site : String} {b : Buf} {i v : Nat} (h : i < b.len) : orAtC site b i v = .ok (b.orAt i v) := by
  simp [orAtC, h]
theorem setAtC_ok {site : String} {b : Buf} {i v : Nat} (h : i < b.len) : setAtC site b i v = .ok (b.setAt i v) := by
  simp [setAtC, h]

theorem and_bit_cases (x k : Nat) : x &&& 2 ^ k = 0 ∨ x &&& 2 ^ k = 2 ^ k := by
  cases h : x.testBit k
  · refine .inl (Nat.eq_of_testBit_eq fun i => ?_)
    rw [Nat.testBit_and, Nat.testBit_two_pow, Nat.zero_testBit]
    by_cases hi : k = i
    · rw [← hi, h]; rfl
    · simp [hi]
  · refine .inr (Nat.eq_of_testBit_eq fun i => ?_)
    rw [Nat.testBit_and, Nat.testBit_two_pow]
    by_cases hi : k = i
    · rw [← hi, h]; simp
    · simp [hi]

theorem expRep_isI32 (T : Ty) : T.expRep.isI32 = T.expIsI32 := by cases T <;> rfl

theorem expRep_le {T : Ty} {n : Nat} (hT : T.expIsI32 = true → n ≤ 5) : T.expRep.isI32 = true → n ≤ 5 :=
  expRep_isI32 T ▸ hT

/-- `x` is a value of the exponent type `r`: an `i32` for the two `i32` representations, anything for `BigInt` -/
def InExp (r : ExpRep) (x : Int) : Prop := r.isI32 = true → fitsI32 x

/-- the `i32` types are at most 160 bits wide (`n ≤ 5`): a bound that holds there is all that is asked -/
theorem InExp.of_small {r : ExpRep} {n : Nat} (hr : r.isI32 = true → n ≤ 5) {x : Int}
    (h : n ≤ 5 → -2147483648 ≤ x ∧ x ≤ 2147483647) : InExp r x := fun hi => fitsI32_iff.2 (h (hr hi))

theorem expOp_ok {r : ExpRep} {c : Bool} {s : String} {x : Int} (h : InExp r x) :
    (if r.isI32 = true then resI32 c s x else .ok x) = .ok x := by
  cases hi : r.isI32 with
  | false => rfl
  | true => simp only [if_true, resI32, h hi]

/-- the saturating casts of `encode_max` / `encode_min` change nothing on a value of the exponent type -/
theorem satE_eq {r : ExpRep} {x : Int} (h : InExp r x) : (if r.isI32 = true then satI32 x else x) = x := by
  cases hi : r.isI32 with
  | false => rfl
  | true => rw [if_pos rfl, satI32, if_neg (Int.not_lt.2 (h hi).1), if_neg (Int.not_lt.2 (h hi).2)]

theorem addE_ok {r : ExpRep} {c : Bool} {s : String} {a b : Int} (h : InExp r (a + b)) : addE r c s a b = .ok (a + b) :=
  expOp_ok h
theorem subE_ok {r : ExpRep} {c : Bool} {s : String} {a b : Int} (h : InExp r (a - b)) : subE r c s a b = .ok (a - b) :=
  expOp_ok h
theorem mulE_ok {r : ExpRep} {c : Bool} {s : String} {a b : Int} (h : InExp r (a * b)) : mulE r c s a b = .ok (a * b) :=
  expOp_ok h

/-- for the `i32` types (`n ≤ 5`) `emax = 3·2^(2n+3)` is at most 24576: the exponent arithmetic stays far inside `i32` -/
theorem emaxOf_le {n : Nat} (hn5 : n ≤ 5) : 0 < emaxOf (32 * n) ∧ emaxOf (32 * n) ≤ 24576 ∧
    (2 : Int) ^ (32 * n / 16 + 3) ≤ 8192 := by
  unfold emaxOf
  have h1 : (2 : Int) ^ (32 * n / 16 + 3) ≤ 2 ^ 13 := by
    exact_mod_cast Nat.pow_le_pow_right (by decide : 0 < 2) (by omega : 32 * n / 16 + 3 ≤ 13)
  have h0 : (0 : Int) < 2 ^ (32 * n / 16 + 3) := Int.pow_pos (by decide)
  omega

@[simp] theorem orAt_len (b : Buf) (i v : Nat) : (b.orAt i v).len = b.len := rfl
@[simp] theorem setAt_len (b : Buf) (i v : Nat) : (b.setAt i v).len = b.len := rfl

/-- the exponent continuation of a `4n`-byte buffer starts in byte `trailingBits / 8`; the loops of `combination.rs` go
    over the `len - 1 - trailingBits / 8` bytes from there to the last but one, at most two for the `i32` types (`n ≤ 5`) -/
theorem expField_geom {b : Buf} {n : Nat} (hn : 0 < n) (hl : b.len = 4 * n) :
    b.trailingBits / 8 + 2 ≤ b.len ∧ b.trailingBits / 8 + (b.len - 1 - b.trailingBits / 8) + 1 = b.len ∧
      (n ≤ 5 → b.len - 1 - b.trailingBits / 8 ≤ 2) := by
  rw [Buf.trailingBits_of_len hl, hl]; omega

/-- the trailing significand of a `4n`-byte buffer is a whole number of declets; the `+ 6` is the slack the second byte
    of `writeDpdC` needs (a declet at bit `t` touches byte `t / 8 + 1`).  `0 +` is written so that this is
    `encodeDecletsC_spec`'s `bit + 10 * k + 6` at `bit = 0` as it stands. -/
theorem declets_geom {b : Buf} {n : Nat} (hn : 0 < n) (hl : b.len = 4 * n) :
    b.trailingDigits % 3 = 0 ∧ (b.trailingDigits + 2) / 3 = b.trailingDigits / 3 ∧
      0 + 10 * (b.trailingDigits / 3) + 6 ≤ 8 * b.len := by
  rw [Buf.trailingDigits_of_len hl, hl]; omega

theorem precisionC_eq {c : Bool} {b : Buf} {n : Nat} (hn : 0 < n) (hl : b.len = 4 * n) :
    precisionC c b = .ok b.precision := by
  unfold precisionC
  rw [subUsize_ok (by rw [Buf.widthBits_of_len hl]; omega)]
  rfl

theorem trailingDigitsC_eq {c : Bool} {b : Buf} {n : Nat} (hn : 0 < n) (hl : b.len = 4 * n) :
    trailingDigitsC c b = .ok b.trailingDigits := by
  unfold trailingDigitsC
  rw [precisionC_eq hn hl, bind_ok, subUsize_ok (by rw [Buf.precision_of_len hl]; omega)]
  rfl

theorem trailingBitsC_eq {c : Bool} {b : Buf} {n : Nat} (hn : 0 < n) (hl : b.len = 4 * n) :
    trailingBitsC c b = .ok b.trailingBits := by
  unfold trailingBitsC
  rw [subUsize_ok (by rw [Buf.widthBits_of_len hl]; omega)]
  rfl

/-- holds for every buffer: `bit_width / 16 + 9 ≥ 3` -/
theorem exponentBitsC_eq {c : Bool} (b : Buf) : exponentBitsC c b = .ok b.exponentBits := by
  unfold exponentBitsC
  rw [subUsize_ok (by simp only [Buf.combinationBits]; omega)]
  rfl

end Decstr.Proofs.Exec
