import Decstr.Proofs.ExecLazy
/-!
# Proofs.ExecLazyRefine — the lazy checked model of `to_<int>` / `to_f32/f64` refines the eager one, on every buffer

`Eager.toIntC` / `Eager.toFloatC` decode every declet first and then work on the list of digits; they mirror no Rust code
and serve only as the yardstick.  For every buffer, of any length and content, and both profiles: if the eager function
returns a value, the lazy one of the checked model returns the same value.  So the lazy model reaches a panic site only
where the eager one does, and the inclusion is strict (`example`s at the end).  On a well-formed buffer the eager
functions compute what the pure model computes (ExecDecodeApi).
-/
namespace Decstr.Proofs.Exec
open Decstr.Model Decstr.Model.Exec Decstr.Spec

namespace Eager

/-- the arms of `decimal_to_int` on the digits decoded in advance -/
def toIntCoreC (T : Ty) (checks : Bool) (I : Spec.IntTy) (neg : Bool) (digits : List Nat) (exponent : Int) (precision : Nat)
    (fin : Bool) : Chk (Option Int) :=
  let inI32 := T.expIsI32 || (decide (i32Min ≤ exponent) && decide (exponent ≤ i32Max))
  if neg && !I.signed then .ok none
  else if inI32 && exponent = 0 then intFromAsciiC checks I neg digits 0
  else if inI32 && exponent > 0 then
    match intFromAsciiC checks I neg digits 0 with
    | .error e => .error e
    | .ok (some acc) => .ok (intPushZeros I neg exponent.toNat acc)
    | .ok none => .ok none
  else if inI32 && exponent.natAbs < precision then
    match subUsize checks "from_int.rs:68 precision_digits() - exponent.unsigned_abs()" precision exponent.natAbs with
    | .error e => .error e
    | .ok k =>
      match intFromAsciiC checks I neg (digits.take k) 0 with
      | .error e => .error e
      | .ok none => .ok none
      | .ok (some i) => .ok (if (digits.drop k).all (· == 48) then some i else none)
  else
    if fin && digits.all (· == 48) then intFromAsciiC checks I neg [48] 0 else .ok none

/-- `decimal_to_int`, every declet decoded first -/
def toIntC (T : Ty) (checks : Bool) (b : Buf) (I : Spec.IntTy) : Chk (Option Int) := do
  let em ← decodeCombinationFiniteC T.expRep checks b
  let msdA ← bcdToAsciiC checks em.2
  let declets ← decodeDecletsC checks b
  let neg ← isSignNegativeC checks b
  let p ← precisionC checks b
  let fin ← isFiniteC checks b
  toIntCoreC T checks I neg (msdA :: declets.flatten) em.1 p fin

/-- `decimal_to_binary_float`, every declet decoded first -/
def toFloatC (T : Ty) (checks : Bool) (b : Buf) (B : Spec.BinFmt) : Chk (Option Nat) := do
  let fin ← isFiniteC checks b
  let neg ← isSignNegativeC checks b
  if fin then do
    let em ← decodeCombinationFiniteC T.expRep checks b
    let msdA ← bcdToAsciiC checks em.2
    let declets ← decodeDecletsC checks b
    let t ← floatTextC checks neg (msdA :: declets.flatten) em.1
    .ok (match t with
      | none => none
      | some text =>
        match parseFloatBits B text with
        | some bits => if B.isInf bits || B.isNan bits then none else some bits
        | none => none)
  else do
    let inf ← isInfiniteC checks b
    if inf then .ok (some ((if neg then B.signMask else 0) + B.infBits))
    else do
      let isn ← isNanC checks b
      dbg checks "convert/from_binary_float.rs:65 debug_assert!(is_nan(decimal))" (isn = true)
      let declets ← decodeDecletsC checks b
      let _ ← intFromAsciiC checks ⟨true, B.width⟩ false declets.flatten 0
      let _ ← isSignalingNanC checks b
      .ok (some (toFloatNan B neg declets.flatten))

end Eager

theorem decodeDecletsC_eq_ok {c : Bool} {b : Buf} {L : List (List Nat)} (h : decodeDecletsC c b = .ok L) :
    ∃ tb, trailingBitsC c b = .ok tb ∧ decodeDecletsGoC c b ((tb + 9) / 10) tb = .ok L := by
  unfold decodeDecletsC at h
  exact bind_eq_ok h

theorem decodeDecletsGoC_ge {c : Bool} {b : Buf} {k bit : Nat} {L : List (List Nat)}
    (h : decodeDecletsGoC c b k bit = .ok L) : ∀ x ∈ L.flatten, 48 ≤ x :=
  yields_ge (yields_of_decode h) nofun

/-- the arms of `decimal_to_int` on the digit stream against the eager arms, panics included: each consumer is its list
    counterpart on a stream that `Yields` the list -/
theorem toIntCoreC_eq_eager {T : Ty} {c : Bool} {b : Buf} {I : IntTy} {exponent : Int} {msd msdA tb p : Nat}
    {neg fin : Bool} {declets : List (List Nat)} (hmsd : bcdToAsciiC c msd = .ok msdA)
    (htb : trailingBitsC c b = .ok tb) (hgo : decodeDecletsGoC c b ((tb + 9) / 10) tb = .ok declets)
    (hneg : isSignNegativeC c b = .ok neg) (hp : precisionC c b = .ok p) (hfin : isFiniteC c b = .ok fin) :
    toIntCoreC T c b I exponent msd = Eager.toIntCoreC T c I neg (msdA :: declets.flatten) exponent p fin := by
  have hy : Yields c b (Digits.start [msdA] tb) (msdA :: declets.flatten) := yields_start [msdA] hgo
  have hbound := yields_length_le hy
  unfold toIntCoreC Eager.toIntCoreC
  simp only [htb, hmsd, hneg, hp, hfin, bind_ok]
  generalize (T.expIsI32 || (decide (i32Min ≤ exponent) && decide (exponent ≤ i32Max))) = inI32
  generalize Digits.start [msdA] tb = it0 at hy hbound ⊢
  generalize msdA :: declets.flatten = ds at hy hbound ⊢
  -- the wildcard arm of the Rust `match`
  have harm4 : (if fin = true then do
          let z ← allZeroC c b (it0.bound + 1) it0
          if z = true then intFromAsciiC c I neg [48] 0 else Except.ok none
        else (Except.ok none : Chk (Option Int))) =
      if (neg && !I.signed) = true then .ok none
      else if (fin && ds.all (· == 48)) = true then intFromAsciiC c I neg [48] 0 else .ok none := by
    rw [allZeroC_yields hy (Nat.lt_succ_of_le hbound), bind_ok]
    by_cases hs : (neg && !I.signed) = true
    · -- a negative sign on an unsigned target: `try_from_ascii` answers `None` whatever the zeros
      rw [if_pos hs, intFromAsciiC, if_pos hs, ite_self, ite_self]
    · rw [if_neg hs]
      cases fin <;> rfl
  cases inI32 with
  | false => exact harm4
  | true =>
    simp only [Bool.true_and, decide_eq_true_eq, Bool.or_eq_true, ↓reduceIte, bind_ok]
    obtain ⟨it', h1, -⟩ := tryFromDigitsC_yields I neg (it0.bound + 1) hy
    rw [List.take_of_length_le (Nat.le_succ_of_le hbound)] at h1
    by_cases he0 : exponent = 0
    · -- `Some(0)`, `±123`
      subst he0
      rw [if_pos (Or.inl rfl), h1]
      cases (neg && !I.signed) with
      | true => rfl
      | false => rcases intFromAsciiC c I neg ds 0 with e | _ | acc <;> rfl
    · by_cases hpos : exponent > 0
      · -- `Some(exponent) if exponent > 0`, `±123e1`
        simp only [↓if_pos (Or.inr hpos), ↓if_neg he0, ↓if_pos hpos, h1]
        cases (neg && !I.signed) with
        | true => rfl
        | false => rcases intFromAsciiC c I neg ds 0 with e | _ | acc <;> rfl
      · rw [if_neg (not_or.2 ⟨he0, hpos⟩), if_neg he0, if_neg hpos]
        by_cases hlt : exponent.natAbs < p
        · -- `Some(exponent) if |exponent| < precision`, `±1230e-1`
          rw [if_pos hlt, if_pos hlt]
          simp only [subUsize_ok (Nat.le_of_lt hlt), bind_ok]
          obtain ⟨it', h1, hrest⟩ := tryFromDigitsC_yields I neg (p - exponent.natAbs) hy
          rw [h1]
          cases hs : (neg && !I.signed) with
          | true => rfl
          | false =>
            rcases hx : intFromAsciiC c I neg (ds.take (p - exponent.natAbs)) 0 with e | _ | i
            · rfl
            · rfl
            · have hy' := hrest i hs hx
              simp only [Except.map, Bool.false_eq_true, ↓reduceIte, bind_ok]
              rw [allZeroC_yields hy' (Nat.lt_succ_of_le (yields_length_le hy')), bind_ok]
        · -- the wildcard arm
          rw [if_neg hlt, if_neg hlt]
          exact harm4

theorem toIntC_refines (T : Ty) (c : Bool) (b : Buf) (I : IntTy) (r : Option Int)
    (h : Eager.toIntC T c b I = .ok r) : toIntC T c b I = .ok r := by
  unfold Eager.toIntC at h
  obtain ⟨em, hem, h⟩ := bind_eq_ok h
  obtain ⟨msdA, hmsd, h⟩ := bind_eq_ok h
  obtain ⟨declets, hdec, h⟩ := bind_eq_ok h
  obtain ⟨neg, hneg, h⟩ := bind_eq_ok h
  obtain ⟨p, hp, h⟩ := bind_eq_ok h
  obtain ⟨fin, hfin, h⟩ := bind_eq_ok h
  obtain ⟨tb, htb, hgo⟩ := decodeDecletsC_eq_ok hdec
  unfold toIntC
  rw [hem, bind_ok, toIntCoreC_eq_eager hmsd htb hgo hneg hp hfin]
  exact h

theorem toFloatC_refines (T : Ty) (c : Bool) (b : Buf) (B : BinFmt) (r : Option Nat)
    (h : Eager.toFloatC T c b B = .ok r) : toFloatC T c b B = .ok r := by
  unfold Eager.toFloatC at h
  obtain ⟨fin, hfin, h⟩ := bind_eq_ok h
  obtain ⟨neg, hneg, h⟩ := bind_eq_ok h
  unfold toFloatC
  rw [hfin, bind_ok]
  cases fin with
  | true =>
    rw [if_pos rfl] at h ⊢
    obtain ⟨em, hem, h⟩ := bind_eq_ok h
    obtain ⟨msdA, hmsd, h⟩ := bind_eq_ok h
    obtain ⟨declets, hdec, h⟩ := bind_eq_ok h
    obtain ⟨tb, htb, hgo⟩ := decodeDecletsC_eq_ok hdec
    rw [hem, bind_ok, htb, bind_ok, hneg, bind_ok, hmsd, bind_ok,
      floatTextLazyC_yields (yields_start [msdA] hgo)]
    exact h
  | false =>
    rw [if_neg Bool.false_ne_true] at h ⊢
    obtain ⟨inf, hinf, h⟩ := bind_eq_ok h
    rw [hinf, bind_ok]
    cases inf with
    | true =>
      rw [if_pos rfl] at h ⊢
      rw [hneg, bind_ok]
      exact h
    | false =>
      rw [if_neg Bool.false_ne_true] at h ⊢
      obtain ⟨isn, hisn, h⟩ := bind_eq_ok h
      obtain ⟨u, hdbg, h⟩ := bind_eq_ok h
      obtain ⟨declets, hdec, h⟩ := bind_eq_ok h
      obtain ⟨x, hx, h⟩ := bind_eq_ok h
      obtain ⟨sn, hsn, h⟩ := bind_eq_ok h
      obtain ⟨tb, htb, hgo⟩ := decodeDecletsC_eq_ok hdec
      obtain ⟨it', ht⟩ := tryFromDigitsC_eq ⟨true, B.width⟩ false (yields_start [] hgo) (decodeDecletsGoC_ge hgo)
      rw [hisn, bind_ok, hdbg, bind_ok, htb, bind_ok]
      dsimp only
      rw [ht, bind_ok, hneg, bind_ok, hsn, bind_ok]
      exact h

/-! ## the inclusion is strict: requests of the site validation on which the eager functions report a panic that the
Rust code does not have (`x_to_int fix3 ffffff u32`, `x_to_float dyn ffffffffffffffffffffff f32`) -/

example : (Eager.toIntC .b32 true (Buf.ofBytes [0xff, 0xff, 0xff]) ⟨false, 32⟩).isOk = false ∧
    (Eager.toIntC .b32 false (Buf.ofBytes [0xff, 0xff, 0xff]) ⟨false, 32⟩).isOk = false ∧
    toIntC .b32 true (Buf.ofBytes [0xff, 0xff, 0xff]) ⟨false, 32⟩ = .ok none ∧
    toIntC .b32 false (Buf.ofBytes [0xff, 0xff, 0xff]) ⟨false, 32⟩ = .ok none := by decide +kernel

example : (Eager.toFloatC .dyn true (Buf.ofBytes (List.replicate 11 0xff)) binary32).isOk = false ∧
    (Eager.toFloatC .dyn false (Buf.ofBytes (List.replicate 11 0xff)) binary32).isOk = false ∧
    toFloatC .dyn true (Buf.ofBytes (List.replicate 11 0xff)) binary32 = .ok (some 0xffc00000) ∧
    toFloatC .dyn false (Buf.ofBytes (List.replicate 11 0xff)) binary32 = .ok (some 0xffc00000) := by decide +kernel

/-- a non-trivial instance of the hypothesis: a valid `decimal32` (`750`, bits `0x225003d0`) -/
example : Eager.toIntC .b32 true (Buf.ofBytes [0xd0, 0x03, 0x50, 0x22]) ⟨true, 16⟩ = .ok (some 750) ∧
    Eager.toFloatC .b32 true (Buf.ofBytes [0xd0, 0x03, 0x50, 0x22]) binary32 = .ok (some 0x443b8000) := by decide +kernel

end Decstr.Proofs.Exec

#print axioms Decstr.Proofs.Exec.toIntC_refines
#print axioms Decstr.Proofs.Exec.toFloatC_refines
