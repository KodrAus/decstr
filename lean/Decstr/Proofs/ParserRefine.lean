import Decstr.Proofs.Stream
import Decstr.Proofs.ParserSem
import Decstr.Proofs.Digits
/-!
# Proofs.ParserRefine — the buffer-free parser `ADec` refines the semantic automaton `Sem`

`toSem` forgets the bytes for their digit values.  On the states reachable from `.atStart _` (`Live`) one byte of `ADec` is
one step of `Sem` (the arms `Sem` leaves out are dead there) and `finish` gives the same numeral.  `Live` also keeps every
stored field a run of ASCII digits, non-empty where the machine has seen a digit, so a finished run has good fields
(`FieldsGood`).  No buffer, range or slice occurs: `StreamBuf`/`Stream` relate `ADec` to the concrete parsers.
-/
namespace Decstr.Proofs
open Decstr.Model Decstr.Spec

/-- One byte, parser `r` against automaton `o`: both step, to states related by `ab`, the parser's new state satisfying
    `P`; or both reject the byte -/
@[reducible] def Sim {α β : Type} (c : Nat) (P : α → Prop) (ab : α → β) (r : Except ParseErr α) (o : Option β) : Prop :=
  match r with
  | .ok a => P a ∧ o = some (ab a)
  | .error e => e = .char c ∧ o = none

theorem Sim.map {α β α' β' : Type} {c : Nat} {P : α → Prop} {ab : α → β} {r : Except ParseErr α} {o : Option β}
    (h : Sim c P ab r o) (F : α → α') (G : β → β') {ab' : α' → β'} {Q : α' → Prop} (hab : ∀ a, ab' (F a) = G (ab a))
    (hQ : ∀ a, P a → Q (F a)) : Sim c Q ab' (r.map F) (o.map G) := by
  cases r with
  | ok a => exact ⟨hQ a h.1, by rw [h.2, hab]; rfl⟩
  | error e => exact ⟨h.1, by rw [h.2]; rfl⟩

/-- the automaton state an abstract state denotes: every field's bytes read as digit values; `hasDecimal` is `frac.isSome`
    and without a point `SFin` holds the empty fraction -/
def AFin.toSem (a : AFin) : SFin :=
  { neg := a.neg, int := digitVals a.int, frac := digitVals (a.frac.getD [])
    exp := a.exp.map fun e => (e.1, digitVals e.2)
    hasSign := a.hasSign, hasDecimal := a.frac.isSome, hasDigits := a.hasDigits }

def AInf.toSem (a : AInf) : SInf := ⟨a.expecting, a.neg⟩

def ANan.toSem (a : ANan) : SNan := ⟨a.expecting, a.signaling, a.neg, a.payload.map digitVals⟩

def ADec.toSem : ADec → Sem
  | .atStart neg => .start neg
  | .finite a => .fin a.toSem
  | .infinity a => .inf a.toSem
  | .nan a => .nan a.toSem

/-- a run of ASCII digits, non-empty if `ne` -/
def Digs (ne : Bool) (l : List Nat) : Prop := AsciiDigits l ∧ (ne = true → l ≠ [])

theorem Digs.nil : Digs false [] := ⟨asciiDigits_nil, nofun⟩

theorem Digs.ne {l : List Nat} (h : Digs true l) : AsciiDigits l ∧ l ≠ [] := ⟨h.1, h.2 rfl⟩

theorem Digs.snoc {ne ne' : Bool} {l : List Nat} {c : Nat} (h : Digs ne l) (hc : isDigit c = true) :
    Digs ne' (l ++ [c]) :=
  ⟨asciiDigits_append.2 ⟨h.1, asciiDigits_cons.2 ⟨by simpa [isDigit] using hc, asciiDigits_nil⟩⟩, fun _ => by simp⟩

/-- the `AFin` states that `ADec.start` creates and `AFin.step` keeps, phase by phase.  `DecimalParser` creates the machine
    with its first digit, so the integer part is never empty and before the point `hasDigits` is still set; the point and
    the marker reset `hasDigits`, which from then on says whether the fraction, resp. the exponent, has a digit yet; the
    marker is only taken with `hasDigits`, so a fraction behind it is non-empty -/
def AFin.Live (a : AFin) : Prop :=
  Digs true a.int ∧
  match a.exp with
  | none => match a.frac with
    | none => a.hasDigits = true
    | some fr => Digs a.hasDigits fr
  | some e => (∀ fr, a.frac = some fr → Digs true fr) ∧ Digs a.hasDigits e.2

theorem AFin.Live.started {a : AFin} (h : a.Live) (he : a.exp = none) (hf : a.frac = none) : a.hasDigits = true := by
  simp only [AFin.Live, he, hf] at h
  exact h.2

theorem AFin.step_toSem {a : AFin} (c : Nat) (h : a.Live) :
    Sim c AFin.Live AFin.toSem (a.step c) (a.toSem.step c) := by
  have hexp : a.toSem.exp = a.exp.map fun e => (e.1, digitVals e.2) := rfl
  have hdec : a.toSem.hasDecimal = a.frac.isSome := rfl
  have hdig : a.toSem.hasDigits = a.hasDigits := rfl
  have hsgn : a.toSem.hasSign = a.hasSign := rfl
  unfold SFin.step
  -- `caseN`: the N-th arm of `AFin.step` in the order of its text
  fun_cases AFin.step a c
  -- a sign of the significand wants `hasDigits` unset and no point, which no live state offers: `SFin.step` has no such arm
  case case2 he _ hg | case5 he _ _ _ _ hg =>
    simp only [Bool.and_eq_true, Bool.not_eq_true', Option.isSome_eq_false_iff, Option.isNone_iff_eq_none] at hg
    cases hg.1.2.symm.trans (h.started he hg.2)
  -- `*`: the arm's guards and the four equations above, which turn the guards of `SFin.step` into those of `AFin.step`;
  -- `h` is read in the arm's phase
  all_goals simp only [*, Option.map_none, Option.map_some, ↓reduceIte, Bool.false_eq_true]
  all_goals simp only [AFin.Live, *] at h
  case case1 he hd =>
    unfold AFin.pushDigit
    cases hf : a.frac <;> simp only [hf] at h <;> simp [Sim, AFin.Live, AFin.toSem, he, hf]
    · exact h.1.snoc hd
    · exact ⟨h.1, h.2.snoc hd⟩
  -- in the other arms `simp` computes the two new states and compares them; what it leaves is `Live` of the new one
  all_goals simp [Sim, AFin.Live, AFin.toSem, *]
  -- the point opens an empty fraction, which `SFin` has held all along
  case case3 hp =>
    obtain ⟨-, hf⟩ : c = 46 ∧ a.frac = none := by simpa using hp
    exact ⟨.nil, by rw [hf]; rfl⟩
  -- the marker is taken with `hasDigits` set: a fraction, if there is one, has its digit
  case case4 hm =>
    refine ⟨fun fr hf => ?_, .nil⟩
    rw [hf, (Bool.and_eq_true_iff.1 hm).2] at h
    exact h.2
  case case7 hd => exact ⟨h.2.1, h.2.2.snoc hd⟩
  case case8 | case9 => exact h.2.1

/-- `6 = kwSnan.length`: `DecimalParser` has taken the first letter, so the sign and kind arms of `ANan.step` are dead -/
def ANan.Live (a : ANan) : Prop := a.expecting.length < 6 ∧ ∀ bs, a.payload = some bs → Digs false bs

theorem ANan.step_toSem {a : ANan} (c : Nat) (h : a.Live) :
    Sim c ANan.Live ANan.toSem (a.step c) (a.toSem.step c) := by
  have hAt : a.atStart = false := by simp [ANan.atStart, kwSnan]; exact Nat.ne_of_lt h.1
  have hEx x : a.toSem.isExpecting x = a.isExpecting x := rfl
  have hPs : a.toSem.payload.isSome = a.payload.isSome := by simp [ANan.toSem]
  have hdrop : (a.expecting.drop 1).length < 6 := by rw [List.length_drop]; exact Nat.lt_of_le_of_lt (Nat.sub_le _ _) h.1
  unfold SNan.step
  -- case1–case9: the arms of `ANan.step` in the order of its text (payload digit, `-`, `+`, `n`/`N`, `s`/`S`, `(`, `)`,
  -- keyword letter, rejected); the four start-state arms are dead
  fun_cases ANan.step a c
  case case2 hg | case3 hg | case4 hg | case5 hg => rw [hAt, Bool.and_false] at hg; cases hg
  all_goals simp only [*, ↓reduceIte, Bool.false_eq_true]
  case case1 hg =>
    have hd : isDigit c = true := by simp_all
    refine ⟨⟨h.1, fun _ hb => ?_⟩, by cases hp : a.payload <;> simp [ANan.toSem, hp]⟩
    obtain ⟨bs, hp, rfl⟩ := Option.map_eq_some_iff.1 hb
    exact (h.2 bs hp).snoc hd
  case case6 => exact ⟨⟨hdrop, fun _ e => Option.some.inj e ▸ .nil⟩, rfl⟩
  -- `SNan.step` has folded the `)` arm into its keyword arm
  case case7 hg =>
    obtain ⟨rfl, h41⟩ : c = 41 ∧ _ := by simpa using hg
    exact ⟨⟨hdrop, h.2⟩, by rw [if_pos h41]; rfl⟩
  case case8 => exact ⟨⟨hdrop, h.2⟩, rfl⟩
  case case9 => exact ⟨rfl, rfl⟩

/-- `8 = kwInfinity.length`: the first letter has been taken, so the sign arms of `AInf.step` are dead -/
theorem AInf.step_toSem {a : AInf} (c : Nat) (h : a.expecting.length < 8) :
    Sim c (·.expecting.length < 8) AInf.toSem (a.step c) (a.toSem.step c) := by
  have hAt : a.atStart = false := by simp [AInf.atStart, kwInfinity]; exact Nat.ne_of_lt h
  have hEx : a.toSem.expecting = a.expecting := rfl
  unfold SInf.step
  fun_cases AInf.step a c
  case case1 hg | case2 hg => rw [hAt, Bool.and_false] at hg; cases hg
  all_goals simp only [*, ↓reduceIte, Bool.false_eq_true]
  case case3 he _ => exact ⟨by rw [he] at h; exact Nat.lt_of_succ_lt h, rfl⟩
  all_goals exact ⟨rfl, rfl⟩

/-- the states reachable from `.atStart _` -/
def ADec.Live : ADec → Prop
  | .atStart _ => True
  | .finite a => a.Live
  | .infinity a => a.expecting.length < 8
  | .nan a => a.Live

/-- the `AFin` that `ADec.start` creates at a digit: the sign held back has been replayed, the digit read -/
theorem AFin.steps_first (neg : Option Bool) {c : Nat} (hd : isDigit c = true) :
    ({} : AFin).steps (signByte neg ++ [c]) =
      .ok { neg := neg.getD false, int := [c], hasSign := neg.isSome, hasDigits := true } := by
  rcases neg with _ | _ | _ <;>
    simp [AFin.steps, stepsM, AFin.step, AFin.pushDigit, signByte, hd, show isDigit 43 = false from rfl,
      show isDigit 45 = false from rfl]

/-- the sign held back, replayed into the `ANan` that `ADec.start` creates -/
theorem ANan.steps_sign (neg : Option Bool) (cs : List Nat) :
    ({} : ANan).steps (signByte neg ++ cs) = ({ neg := neg.getD false } : ANan).steps cs := by
  rcases neg with _ | _ | _ <;> rfl

theorem ADec.start_toSem (neg : Option Bool) (c : Nat) :
    Sim c ADec.Live ADec.toSem (ADec.start neg c) ((Sem.start neg).step c) := by
  unfold Sem.step
  -- case1 a digit, case2 `-`, case3 `+`, case4 `s`/`S`/`n`/`N`, case5 `i`/`I`, case6 any other byte; `Sem.step` tests in
  -- the same order, and once the byte is known (case4, case5) both sides evaluate
  fun_cases ADec.start neg c
  all_goals simp only [*, ↓reduceIte, Bool.false_eq_true]
  case case1 hd =>
    rw [AFin.steps_first neg hd]
    exact ⟨⟨Digs.nil.snoc hd, rfl⟩, rfl⟩
  case case2 | case3 => exact ⟨trivial, rfl⟩
  case case4 h =>
    rw [ANan.steps_sign]
    rcases h with rfl | rfl | rfl | rfl <;> exact And.intro ⟨Nat.lt_of_sub_eq_succ rfl, fun _ e => nomatch e⟩ rfl
  case case5 h => rcases h with rfl | rfl <;> exact And.intro (Nat.le_refl 8) rfl
  case case6 h h' =>
    simp only [not_or] at h h'
    simp only [*, decide_false, Bool.or_self, Bool.false_eq_true, ↓reduceIte]
    exact ⟨rfl, rfl⟩

theorem ADec.step_toSem {a : ADec} (c : Nat) (h : a.Live) : Sim c ADec.Live ADec.toSem (a.step c) (a.toSem.step c) := by
  cases a with
  | atStart neg => exact ADec.start_toSem neg c
  | finite a => exact (AFin.step_toSem c h).map ADec.finite Sem.fin (fun _ => rfl) fun _ h => h
  | infinity a => exact (AInf.step_toSem c h).map ADec.infinity Sem.inf (fun _ => rfl) fun _ h => h
  | nan a => exact (ANan.step_toSem c h).map ADec.nan Sem.nan (fun _ => rfl) fun _ h => h

theorem ADec.steps_toSem {a : ADec} (cs : List Nat) (h : a.Live) :
    a.toSem.run cs = (a.steps cs).map ADec.toSem ∧ ∀ a', a.steps cs = .ok a' → a'.Live := by
  induction cs generalizing a with
  | nil => exact ⟨rfl, fun _ e => Except.ok.inj e ▸ h⟩
  | cons c cs ih =>
    have := ADec.step_toSem c h
    simp only [ADec.steps, stepsM, Sem.run]
    cases hs : a.step c with
    | ok a' => rw [hs] at this; rw [this.2]; exact ih this.1
    | error e => rw [hs] at this; rw [this.2, this.1]; exact ⟨rfl, fun _ e => nomatch e⟩

/-- `finish` asks the same of the two states, whatever they are -/
theorem ADec.finish_toSem (a : ADec) : a.finish.map Fields.numeral = a.toSem.finishE := by
  cases a with
  | atStart neg => rfl
  | finite a =>
    simp only [ADec.finish, AFin.finish, ADec.toSem, Sem.finishE, Sem.finish, SFin.finish]
    have : a.toSem.hasDigits = a.hasDigits := rfl
    rw [this]
    cases a.hasDigits <;> rfl
  | infinity a =>
    simp only [ADec.finish, AInf.finish, ADec.toSem, Sem.finishE, Sem.finish, SInf.finish]
    have : a.toSem.expecting = a.expecting := rfl
    rw [this]
    split <;> rfl
  | nan a =>
    obtain ⟨ex, sg, ng, pl⟩ := a
    simp only [ADec.finish, ANan.finish, ADec.toSem, ANan.toSem, Sem.finishE, Sem.finish, SNan.finish]
    split <;> simp_all <;> rfl

/-- **the buffer-free parser refines the automaton**, results and errors alike -/
theorem adec_refines (txt : List Nat) : ((ADec.atStart none).run txt).map Fields.numeral = semParseE txt := by
  unfold ADec.run semParseE
  rw [show (Sem.start none).run txt = _ from (ADec.steps_toSem (a := .atStart none) txt trivial).1]
  cases (ADec.atStart none).steps txt with
  | ok a' => exact ADec.finish_toSem a'
  | error e => rfl

/-- `finish` answers only with `hasDigits` set, resp. the keyword complete: the field then being read is non-empty too -/
theorem ADec.Live.finish {a : ADec} {F : Fields} (h : a.Live) (hF : a.finish = .ok F) : FieldsGood F := by
  revert hF
  cases a with
  | atStart neg => nofun
  | finite a =>
    simp only [ADec.finish, AFin.finish, ADec.Live, AFin.Live] at h ⊢
    cases hd : a.hasDigits <;> rintro ⟨⟩
    simp only [hd] at h
    refine ⟨h.1.1, h.1.2 rfl, ?_⟩
    cases he : a.exp with
    | none =>
      cases hf : a.frac with
      | none => exact ⟨nofun, nofun⟩
      | some fr => simp only [he, hf] at h; exact ⟨fun _ e => Option.some.inj e ▸ h.2.ne, nofun⟩
    | some e => simp only [he] at h; exact ⟨fun fr hf => (h.2.1 fr hf).ne, fun _ e' => Option.some.inj e' ▸ h.2.2.ne⟩
  | infinity a =>
    simp only [ADec.finish, AInf.finish]
    split <;> rintro ⟨⟩
    trivial
  | nan a =>
    simp only [ADec.finish]
    fun_cases ANan.finish a <;> rintro ⟨⟩
    · rintro _ ⟨⟩; exact ⟨(h.2 _ ‹_›).1, by simp⟩
    · nofun

theorem ADec.run_fieldsGood {cs : List Nat} {F : Fields} (h : (ADec.atStart none).run cs = .ok F) : FieldsGood F := by
  unfold ADec.run at h
  cases hs : (ADec.atStart none).steps cs with
  | ok a' => rw [hs] at h; exact ((ADec.steps_toSem (a := .atStart none) cs trivial).2 a' hs).finish h
  | error e => rw [hs] at h; cases h

end Decstr.Proofs
