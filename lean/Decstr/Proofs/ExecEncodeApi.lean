import Decstr.Model.ExecApi
import Decstr.Proofs.ExecParsedOK
import Decstr.Proofs.ExecText
import Decstr.Props.C05
import Decstr.Props.C16
/-!
# Proofs.ExecEncodeApi — the public operations that make a decimal: parsing, byte-level construction, integer / binary
float → decimal, `encode_max` / `encode_min`
-/
namespace Decstr.Proofs.Exec
open Decstr.Model Decstr.Model.Exec Decstr.Spec

theorem tryParseStrC_eq {c : Bool} (T : Ty) (input : List Nat) :
    tryParseStrC T c input = .ok (tryParseStr T input) := by
  unfold tryParseStrC tryParseStr
  rw [parseStrC_eq, bind_ok]
  cases hp : parseStr input with
  | error e => rfl
  | ok p =>
    dsimp only
    rw [fromParsedC_eq (parseStr_parsedOK hp), bind_ok]

theorem parseFmt_parsedOK {kind : BufKind} (hk : kind ≠ .str) {frs : List (List Nat)} {fault : Fault} {p : Parsed}
    (h : parseFmt kind frs fault = .ok p) : ParsedOK p := by
  have h0 := parseFmt_ok_none h
  -- the fragments go through the byte loop, which keeps the parser in step with its buffer
  rw [parseFmt_none] at h0
  rcases feedM_eq (DecimalParser.begin (TextBuf.new kind [])) frs rfl with hs | ⟨hb, _⟩
  · rw [hs] at h0
    exact parsedOK_of_run (invD_begin_copy kind hk frs.flatten) h0
  · rw [hb] at h0; cases h0

theorem textKind_ok (T : Ty) : T.textKind ≠ .str ∧ ∀ cap, T.textKind = .array cap → 2 ≤ cap := by
  cases T <;> simp [Ty.textKind]

/-- **`T::try_parse`**, whatever the `Display` does -/
theorem tryParseC_eq {c : Bool} (T : Ty) (frags : List (List Nat)) (fault : Fault) :
    tryParseC T c frags fault = .ok (tryParse T frags fault) := by
  unfold tryParseC tryParse
  obtain ⟨hk, hcap⟩ := textKind_ok T
  rw [parseFmtC_eq hk hcap, bind_ok]
  cases hp : parseFmt T.textKind frags fault with
  | error e => rfl
  | ok p =>
    dsimp only
    rw [fromParsedC_eq (parseFmt_parsedOK hk hp), bind_ok]

theorem withAtLeastBytes_len (T : Ty) (len : Nat) (b : Buf) (h : T.withAtLeastBytes len = .ok b) : b = Buf.zero b.len := by
  rw [(Props.C07.withAtLeastBytes_ok h).1]; rfl

theorem tryFromLeBytesC_eq (T : Ty) (bytes : List Nat) : tryFromLeBytesC T bytes = .ok (tryFromLeBytes T bytes) := by
  unfold tryFromLeBytesC tryFromLeBytes
  dsimp only
  refine ok_ite (fun _ => rfl) fun _ => ?_
  cases hw : T.withAtLeastBytes bytes.length with
  | error e => rfl
  | ok buf => exact ok_ite (fun _ => rfl) fun hne => by rw [req_pos (by simpa using hne), bind_ok]

/-- the codec under `decimal_from_int` / `decimal_from_binary_float`: for a text that starts with a digit (or `-` and a
    digit), the only panics left are the two `expect`s of the API layer, which the pure model reports as `.panic` -/
theorem fromTextC_eq {T : Ty} {c inf : Bool} {text : List Nat} (hstart : startsWithDigitOrMinusDigit text = true)
    (hnp : fromText T inf text ≠ .panic) : fromTextC T c inf text = .ok (fromText T inf text).opt := by
  unfold fromText at hnp ⊢
  unfold fromTextC
  rw [parseFiniteStrC_eq, bind_ok]
  have hps := parseFiniteStr_eq_parseStr text hstart
  cases hp : parseFiniteStr text with
  | error e => rw [hp] at hnp; exact absurd rfl hnp
  | ok p =>
    rw [hp] at hnp
    dsimp only at hnp ⊢
    rw [fromParsedC_eq (parseStr_parsedOK (hps ▸ hp)), bind_ok]
    cases hf : fromParsed T p with
    | ok b => rfl
    | error e =>
      rw [hf] at hnp
      dsimp only at hnp ⊢
      cases inf with
      | true => exact absurd rfl hnp
      | false => rfl

/-- **`from_i8 … from_u128`** (both the `From` and the `try_from` flavours) -/
theorem fromIntC_eq {T : Ty} {c : Bool} {I : IntTy} (hI : I.bits = 8 ∨ I.bits = 16 ∨ I.bits = 32 ∨ I.bits = 64 ∨ I.bits = 128)
    {v : Int} (hv : I.contains v = true) : fromIntC T c I v = .ok (fromInt T I v).opt :=
  fromTextC_eq (Props.C10.starts v) (Props.C05.C05_from_int T I hI v hv)

/-- **`from_f32` / `from_f64`**: every site of the codec is unreachable; what remains is the `expect` of the conversions
    offered as infallible, i.e. that the pure model does not answer `.panic` (property C12).  `ryu` is the formatter's
    output for a finite float: it starts with a digit, or `-` and a digit. -/
theorem fromFloatC_eq {T : Ty} {c : Bool} {B : BinFmt} {bits : Nat} {ryu : List Nat}
    (hstart : startsWithDigitOrMinusDigit ryu = true) (hnp : fromFloat T B bits ryu ≠ .panic) :
    fromFloatC T c B bits ryu = .ok (fromFloat T B bits ryu).opt := by
  unfold fromFloat at hnp ⊢
  unfold fromFloatC
  dsimp only at hnp ⊢
  -- NaN and the infinities always fit (`C09_nan_none`, `C09_inf`): their `expect` is never reached
  by_cases hnan : B.isNan bits = true
  · rw [if_pos hnan, if_pos hnan, fromParsedC_eq (by intro s hs; cases hs), Props.C09.C09_nan_none T _ _ _ none rfl]
    rfl
  · rw [if_neg hnan] at hnp ⊢
    rw [if_neg hnan]
    by_cases hinf : B.isInf bits = true
    · rw [if_pos hinf, if_pos hinf, fromParsedC_eq (p := .infinity _) trivial, Props.C09.C09_inf]
      rfl
    · rw [if_neg hinf] at hnp ⊢
      rw [if_neg hinf]
      exact fromTextC_eq hstart hnp

/-- **`encode_max`** (the `MAX`/`MIN` constants are its outputs): the exponent it computes is the format's `qmax` -/
theorem encodeMaxC_eq {r : ExpRep} {c : Bool} {n : Nat} (hn : 0 < n) (hr : r.isI32 = true → n ≤ 5) {neg : Bool} :
    encodeMaxC r c (4 * n) neg = .ok (encodeMax (4 * n) neg) := by
  have hl : (Buf.zero (4 * n)).len = 4 * n := rfl
  have hp := Buf.precision_of_len hl
  unfold encodeMaxC encodeMax
  dsimp only
  rw [precisionC_eq hn hl, bind_ok, subUsize_ok (by rw [hp]; omega), bind_ok, Buf.widthBits_of_len hl,
    emaxC_eq hr, bind_ok, encodeSignificandRepeatC_eq hn hl (by decide), bind_ok]
  have hmsd : (encodeSignificandRepeat (Buf.zero (4 * n)) 57).2 = 9 := rfl
  rw [hmsd, bcdToAsciiC_eq (by decide), bind_ok, dbg_pos (by decide), bind_ok, hp,
    satE_eq (.of_small hr fun h5 => by have := emaxOf_le h5; omega)]
  exact encodeCombinationFiniteC_of_range hn (repeat_go_len _ _ _ _) hr
    ((maxExponent_eq n hn).symm ▸ ⟨qmin_le_qmax n, Int.le_refl _⟩)

/-- **`encode_min`** (the `MIN_POSITIVE` constants are its outputs): the exponent it computes is the format's `qmin` -/
theorem encodeMinC_eq {r : ExpRep} {c : Bool} {n : Nat} (hn : 0 < n) (hr : r.isI32 = true → n ≤ 5) {neg : Bool} :
    encodeMinC r c (4 * n) neg = .ok (encodeMin (4 * n) neg) := by
  have hl : (Buf.zero (4 * n)).len = 4 * n := rfl
  have hp := Buf.precision_of_len hl
  unfold encodeMinC encodeMin
  dsimp only
  rw [precisionC_eq hn hl, bind_ok, Buf.widthBits_of_len hl, emaxC_eq hr, bind_ok,
    subE_ok (.of_small hr fun h5 => by have := emaxOf_le h5; omega), bind_ok,
    encodeSignificandC_eq hn hl (.cons (List.cons_ne_nil 49 []) .nil)
      (List.forall_mem_singleton.2 ⟨by decide, by decide⟩), bind_ok, List.flatten_singleton, hp,
    satE_eq (x := 1 - emaxOf (32 * n) + 1) (.of_small hr fun h5 => by have := emaxOf_le h5; omega),
    satE_eq (.of_small hr fun h5 => by have := emaxOf_le h5; omega)]
  exact encodeCombinationFiniteC_of_range hn (encodeSignificand_len _ _) hr
    ((minExponent_eq n hn).symm ▸ ⟨Int.le_refl _, qmin_le_qmax n⟩)

end Decstr.Proofs.Exec

#print axioms Decstr.Proofs.Exec.tryParseStrC_eq
#print axioms Decstr.Proofs.Exec.tryParseC_eq
#print axioms Decstr.Proofs.Exec.tryFromLeBytesC_eq
#print axioms Decstr.Proofs.Exec.fromIntC_eq
#print axioms Decstr.Proofs.Exec.fromFloatC_eq
#print axioms Decstr.Proofs.Exec.encodeMaxC_eq
#print axioms Decstr.Proofs.Exec.encodeMinC_eq
