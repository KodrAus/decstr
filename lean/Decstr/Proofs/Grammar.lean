import Decstr.Spec.Basic
/-!
# Proofs.Grammar — the reference recogniser `Spec.parse` is the grammar of C06

With `D` for one or more ASCII digits, C06 says the text entry points accept exactly

    [+-]? D (. D)? ((e|E) [+-]? D)?   |   [+-]? inf (inity)?   |   [+-]? s? nan ( \( D? \) )?

in any letter case, without spaces.  `Matches` states this declaratively (concatenation and existential decomposition,
no recursion over the input), with the `Numeral` a text denotes; `Spec.parse` is shown to compute it.
Only `Decstr.Spec` is imported: nothing here depends on the model.
-/

namespace Decstr.Proofs
open Decstr.Spec

/-- `D`: a non-empty run of ASCII digits -/
def IsD (l : List Nat) : Prop := l ≠ [] ∧ ∀ c ∈ l, isDigit c = true

/-- `[+-]?`: "", "+" or "-", and the sign it denotes -/
inductive IsSign : List Nat → Option Bool → Prop
  | none : IsSign [] none
  | plus : IsSign [43] (some false)
  | minus : IsSign [45] (some true)

/-- `w` spelled in any letter case -/
def IsWord (w : String) (l : List Nat) : Prop := l.map lower = w.toList.map Char.toNat

instance (w : String) (l : List Nat) : Decidable (IsWord w l) := by unfold IsWord; infer_instance

/-- `(. D)?` and the fraction digits it denotes -/
inductive IsFrac : List Nat → List Nat → Prop
  | none : IsFrac [] []
  | some (f : List Nat) : IsD f → IsFrac (46 :: f) (f.map (· - 48))

/-- `((e|E) [+-]? D)?` and the exponent it denotes -/
inductive IsExp : List Nat → Option (Bool × List Nat) → Prop
  | none : IsExp [] none
  | some (m : Nat) (es ed : List Nat) (so : Option Bool) :
      (m = 101 ∨ m = 69) → IsSign es so → IsD ed →
      IsExp (m :: es ++ ed) (some (so.getD false, ed.map (· - 48)))

/-- `s?` and whether the NaN is signalling -/
inductive IsSig : List Nat → Bool → Prop
  | quiet : IsSig [] false
  | signalling (l : List Nat) : IsWord "s" l → IsSig l true

/-- `( \( D? \) )?` and the payload it denotes (`none` without brackets) -/
inductive IsPayload : List Nat → Option (List Nat) → Prop
  | none : IsPayload [] none
  | some (ds : List Nat) : (∀ c ∈ ds, isDigit c = true) → IsPayload (40 :: ds ++ [41]) (some (ds.map (· - 48)))

/-- The grammar of C06, with the numeral each string denotes:
    `[+-]? D (. D)? ((e|E) [+-]? D)?  |  [+-]? inf  |  [+-]? infinity  |  [+-]? s? nan ( \( D? \) )?` -/
inductive Matches : List Nat → Numeral → Prop
  | finite (sg i fr ex : List Nat) (s : Option Bool) (f : List Nat) (e : Option (Bool × List Nat)) :
      IsSign sg s → IsD i → IsFrac fr f → IsExp ex e →
      Matches (sg ++ i ++ fr ++ ex) (.finite (s.getD false) (i.map (· - 48)) f e)
  | inf (sg w : List Nat) (s : Option Bool) :
      IsSign sg s → IsWord "inf" w → Matches (sg ++ w) (.inf (s.getD false))
  | infinity (sg w : List Nat) (s : Option Bool) :
      IsSign sg s → IsWord "infinity" w → Matches (sg ++ w) (.inf (s.getD false))
  | nan (sg sn w pl : List Nat) (s : Option Bool) (g : Bool) (p : Option (List Nat)) :
      IsSign sg s → IsSig sn g → IsWord "nan" w → IsPayload pl p →
      Matches (sg ++ sn ++ w ++ pl) (.nan (s.getD false) g p)

theorem takeDigits_nil : takeDigits [] = ([], []) := rfl

theorem takeDigits_cons_digit {c : Nat} (cs : List Nat) (h : isDigit c = true) :
    takeDigits (c :: cs) = ((c - 48) :: (takeDigits cs).1, (takeDigits cs).2) := by
  simp [takeDigits, h]

theorem takeDigits_cons_nondigit {c : Nat} (cs : List Nat) (h : isDigit c = false) :
    takeDigits (c :: cs) = ([], c :: cs) := by
  simp [takeDigits, h]

theorem Grammar.word_inf : "inf".toList.map Char.toNat = [105, 110, 102] := by decide +kernel
theorem Grammar.word_inity : "inity".toList.map Char.toNat = [105, 110, 105, 116, 121] := by decide +kernel
theorem Grammar.word_infinity : "infinity".toList.map Char.toNat = [105, 110, 102, 105, 110, 105, 116, 121] := by decide +kernel
theorem Grammar.word_nan : "nan".toList.map Char.toNat = [110, 97, 110] := by decide +kernel
theorem Grammar.word_s : "s".toList.map Char.toNat = [115] := by decide +kernel

theorem kw_inf (cs : List Nat) :
    kw "inf" cs = if (cs.take 3).map lower = [105, 110, 102] then some (cs.drop 3) else none := by
  unfold kw; rw [Grammar.word_inf]; rfl
theorem kw_nan (cs : List Nat) :
    kw "nan" cs = if (cs.take 3).map lower = [110, 97, 110] then some (cs.drop 3) else none := by
  unfold kw; rw [Grammar.word_nan]; rfl
theorem kw_s (cs : List Nat) :
    kw "s" cs = if (cs.take 1).map lower = [115] then some (cs.drop 1) else none := by
  unfold kw; rw [Grammar.word_s]; rfl
theorem kw_inity (cs : List Nat) : kw "inity" cs = if (cs.take 5).map lower = [105,110,105,116,121] then some (cs.drop 5) else none := by
  unfold kw; rw [Grammar.word_inity]; rfl

namespace Grammar

theorem isWord_inf {l : List Nat} : IsWord "inf" l ↔ l.map lower = [105, 110, 102] := by
  unfold IsWord; rw [word_inf]
theorem isWord_inity {l : List Nat} : IsWord "inity" l ↔ l.map lower = [105, 110, 105, 116, 121] := by
  unfold IsWord; rw [word_inity]
theorem isWord_infinity {l : List Nat} :
    IsWord "infinity" l ↔ l.map lower = [105, 110, 102, 105, 110, 105, 116, 121] := by
  unfold IsWord; rw [word_infinity]
theorem isWord_nan {l : List Nat} : IsWord "nan" l ↔ l.map lower = [110, 97, 110] := by
  unfold IsWord; rw [word_nan]
theorem isWord_s {l : List Nat} : IsWord "s" l ↔ l.map lower = [115] := by
  unfold IsWord; rw [word_s]

/-- `lower` shifts the 26 upper-case letters and nothing else -/
theorem lower_spec (c : Nat) : (65 ≤ c ∧ c ≤ 90 ∧ lower c = c + 32) ∨ (¬(65 ≤ c ∧ c ≤ 90) ∧ lower c = c) := by
  unfold lower
  split
  next h => exact .inl (by simpa using h)
  next h => exact .inr ⟨by simpa using h, rfl⟩

theorem isDigit_iff {c : Nat} : isDigit c = true ↔ 48 ≤ c ∧ c ≤ 57 := by simp [isDigit]

theorem lower_letter {c : Nat} (h : 97 ≤ lower c ∧ lower c ≤ 122) : isDigit c = false ∧ c ≠ 43 ∧ c ≠ 45 := by
  have := lower_spec c
  refine ⟨?_, by omega, by omega⟩
  rw [← Bool.not_eq_true, isDigit_iff]
  omega

/-- what "in any letter case" means -/
theorem lower_eq_letter {c n : Nat} (hn : 97 ≤ n ∧ n ≤ 122) : lower c = n ↔ (c = n ∨ c + 32 = n) := by
  have := lower_spec c; omega

theorem lower_eq_iff {c n u : Nat} (hn : 97 ≤ n ∧ n ≤ 122) (hu : u + 32 = n) : lower c = n ↔ (c = n ∨ c = u) := by
  rw [lower_eq_letter hn, ← hu, Nat.add_right_cancel_iff]

theorem lower_eq_101 {c : Nat} : lower c = 101 ↔ (c = 101 ∨ c = 69) := lower_eq_iff (by omega) rfl

/-- the text does not start with a digit (it is empty or starts with another byte) -/
def NoDig (r : List Nat) : Prop := ∀ c t, r = c :: t → isDigit c = false
/-- the text does not start with `+` or `-` -/
def NoSgn (r : List Nat) : Prop := ∀ c t, r = c :: t → c ≠ 43 ∧ c ≠ 45

theorem noDig_nil : NoDig [] := by intro c t h; cases h
theorem noSgn_nil : NoSgn [] := by intro c t h; cases h
theorem noDig_cons {c : Nat} {t : List Nat} (h : isDigit c = false) : NoDig (c :: t) := by
  intro c' t' e; cases e; exact h
theorem noSgn_cons {c : Nat} {t : List Nat} (h : c ≠ 43 ∧ c ≠ 45) : NoSgn (c :: t) := by
  intro c' t' e; cases e; exact h

theorem noSgn_of_isD {l : List Nat} (h : IsD l) : NoSgn l := by
  obtain ⟨hne, hd⟩ := h
  cases l with
  | nil => exact absurd rfl hne
  | cons a l =>
    have := isDigit_iff.mp (hd a (by simp))
    exact noSgn_cons (by omega)

theorem takeDigits_noDig {r : List Nat} (h : NoDig r) : takeDigits r = ([], r) := by
  cases r with
  | nil => rfl
  | cons c t => exact takeDigits_cons_nondigit t (h c t rfl)

theorem takeDigits_run {run r : List Nat} (hd : ∀ c ∈ run, isDigit c = true) (hr : NoDig r) :
    takeDigits (run ++ r) = (run.map (· - 48), r) := by
  induction run with
  | nil => exact takeDigits_noDig hr
  | cons d ds ih =>
    rw [List.cons_append, takeDigits_cons_digit _ (hd d (by simp)), ih fun c hc => hd c (by simp [hc])]
    rfl

theorem takeDigits_sound (cs : List Nat) :
    ∃ run, cs = run ++ (takeDigits cs).2 ∧ (∀ c ∈ run, isDigit c = true) ∧
      (takeDigits cs).1 = run.map (· - 48) ∧ NoDig (takeDigits cs).2 := by
  induction cs with
  | nil => exact ⟨[], rfl, nofun, rfl, noDig_nil⟩
  | cons c cs ih =>
    cases h : isDigit c
    · rw [takeDigits_cons_nondigit cs h]
      exact ⟨[], rfl, nofun, rfl, noDig_cons h⟩
    · obtain ⟨run, h1, h2, h3, h4⟩ := ih
      rw [takeDigits_cons_digit cs h]
      exact ⟨c :: run, congrArg (c :: ·) h1, List.forall_mem_cons.2 ⟨h, h2⟩, congrArg (_ :: ·) h3, h4⟩

theorem takeDigits_rest (cs : List Nat) : NoDig (takeDigits cs).2 :=
  let ⟨_, _, _, _, h⟩ := takeDigits_sound cs; h

theorem takeDigits_fst_nil (cs : List Nat) (h : (takeDigits cs).1 = []) : (takeDigits cs).2 = cs := by
  obtain ⟨run, h1, -, h3, -⟩ := takeDigits_sound cs
  rw [h] at h3
  rw [List.map_eq_nil_iff.1 h3.symm] at h1
  exact h1.symm

theorem takeDigits_sound' {cs ds r : List Nat} (h : takeDigits cs = (ds, r)) :
    ∃ run, cs = run ++ r ∧ (∀ c ∈ run, isDigit c = true) ∧ ds = run.map (· - 48) ∧ NoDig r := by
  have := takeDigits_sound cs
  rw [h] at this
  exact this

theorem takeSign_sound (cs : List Nat) :
    ∃ sg, cs = sg ++ (takeSign cs).2 ∧ IsSign sg (takeSign cs).1 := by
  unfold takeSign
  split
  · exact ⟨[43], rfl, .plus⟩
  · exact ⟨[45], rfl, .minus⟩
  · exact ⟨[], rfl, .none⟩

theorem takeSign_noSgn {r : List Nat} (h : NoSgn r) : takeSign r = (none, r) := by
  cases r with
  | nil => rfl
  | cons c t =>
    have := h c t rfl
    unfold takeSign
    split
    · rename_i heq; cases heq; exact absurd rfl this.1
    · rename_i heq; cases heq; exact absurd rfl this.2
    · rfl

theorem takeSign_complete {sg r : List Nat} {s : Option Bool} (hs : IsSign sg s) (hr : NoSgn r) :
    takeSign (sg ++ r) = (s, r) := by
  cases hs with
  | none => simpa using takeSign_noSgn hr
  | plus => rfl
  | minus => rfl

theorem kw_iff {w : String} {cs r : List Nat} : kw w cs = some r ↔ ∃ pre, cs = pre ++ r ∧ IsWord w pre := by
  unfold kw IsWord
  simp only
  constructor
  · intro h
    split at h
    · rename_i hw
      injection h with h
      exact ⟨cs.take (w.toList.map Char.toNat).length, by rw [← h, List.take_append_drop], hw⟩
    · cases h
  · rintro ⟨pre, rfl, hw⟩
    have hl : (w.toList.map Char.toNat).length = pre.length := by rw [← hw, List.length_map]
    rw [hl, List.take_left', List.drop_left', if_pos hw] <;> rfl

theorem kw_none_iff (w : String) (cs : List Nat) :
    kw w cs = none ↔ (cs.take (w.toList.map Char.toNat).length).map lower ≠ w.toList.map Char.toNat := by
  unfold kw
  simp only
  split
  next h => exact ⟨nofun, fun hn => absurd h hn⟩
  next h => exact ⟨fun _ => h, fun _ => rfl⟩

/-! ## The finite body `D (. D)? ((e|E) [+-]? D)?` -/

/-- the optional fraction, as `parseFiniteBody` reads it -/
def fracPart (r1 : List Nat) : Option (List Nat × List Nat) :=
  match r1 with
  | 46 :: r => let (fr, r2) := takeDigits r; if fr.isEmpty then none else some (fr, r2)
  | _ => some ([], r1)

/-- the optional exponent, as `parseFiniteBody` reads it -/
def expTail (neg : Bool) (i fr : List Nat) (r2 : List Nat) : Option Numeral :=
  match r2 with
  | [] => some (.finite neg i fr none)
  | c :: r3 =>
    if lower c = 101 then
      let (es, r4) := takeSign r3
      let (ed, r5) := takeDigits r4
      if ed.isEmpty || !r5.isEmpty then none else some (.finite neg i fr (some (es.getD false, ed)))
    else none

theorem parseFiniteBody_eq (neg : Bool) (cs : List Nat) :
    parseFiniteBody neg cs =
      if (takeDigits cs).1.isEmpty then none else
      match fracPart (takeDigits cs).2 with
      | none => none
      | some (fr, r2) => expTail neg (takeDigits cs).1 fr r2 := rfl

theorem takeDigits_isD_sound (cs : List Nat) (h : (takeDigits cs).1.isEmpty = false) :
    ∃ run, IsD run ∧ cs = run ++ (takeDigits cs).2 ∧ (takeDigits cs).1 = run.map (· - 48) ∧ NoDig (takeDigits cs).2 := by
  obtain ⟨run, h1, h2, h3, h4⟩ := takeDigits_sound cs
  refine ⟨run, ⟨?_, h2⟩, h1, h3, h4⟩
  rintro rfl
  rw [h3] at h; cases h

theorem takeDigits_isD {run r : List Nat} (hd : IsD run) (hr : NoDig r) :
    takeDigits (run ++ r) = (run.map (· - 48), r) ∧ (run.map (· - 48)).isEmpty = false := by
  refine ⟨takeDigits_run hd.2 hr, ?_⟩
  cases run with
  | nil => exact absurd rfl hd.1
  | cons a l => rfl

theorem expTail_iff {neg : Bool} {i f r2 : List Nat} {num : Numeral} :
    expTail neg i f r2 = some num ↔ ∃ e, IsExp r2 e ∧ num = .finite neg i f e := by
  constructor
  · intro h
    unfold expTail at h
    split at h
    · cases h; exact ⟨none, .none, rfl⟩
    · rename_i c r3
      split at h
      next hc =>
        obtain ⟨sg, h1, h2⟩ := takeSign_sound r3
        generalize takeSign r3 = sr at h h1 h2
        obtain ⟨so, r4⟩ := sr
        simp only at h h1 h2
        split at h
        · cases h
        next hne =>
          cases h
          simp only [Bool.or_eq_true, Bool.not_eq_true', not_or, Bool.not_eq_true, Bool.not_eq_false] at hne
          obtain ⟨run, hD, h3, h5, -⟩ := takeDigits_isD_sound r4 hne.1
          rw [List.isEmpty_iff.1 hne.2, List.append_nil] at h3
          subst h1 h3
          rw [h5]
          exact ⟨_, .some c sg _ _ (lower_eq_101.mp hc) h2 hD, rfl⟩
      · cases h
  · rintro ⟨e, he, rfl⟩
    cases he with
    | none => rfl
    | some m es ed so hm hs hd =>
      have h1 := takeSign_complete hs (noSgn_of_isD hd)
      obtain ⟨h2, h3⟩ := takeDigits_isD hd noDig_nil
      rw [List.append_nil] at h2
      simp only [expTail, List.cons_append, lower_eq_101.mpr hm, if_true, h1, h2, h3, List.isEmpty_nil,
        Bool.not_true, Bool.or_false, Bool.false_eq_true, if_false]

theorem fracPart_sound {r1 f r2 : List Nat} (h : fracPart r1 = some (f, r2)) :
    ∃ fr, r1 = fr ++ r2 ∧ IsFrac fr f := by
  unfold fracPart at h
  split at h
  · rename_i r
    simp only at h
    split at h
    · cases h
    next hne =>
      cases h
      obtain ⟨run, hD, h3, h5, -⟩ := takeDigits_isD_sound r (by simpa using hne)
      exact ⟨46 :: run, by rw [List.cons_append, ← h3], by rw [h5]; exact .some run hD⟩
  · cases h
    exact ⟨[], rfl, .none⟩

theorem fracPart_complete {fr f r2 : List Nat} (h : IsFrac fr f) (hr : NoDig r2) (h46 : ∀ t, r2 ≠ 46 :: t) :
    fracPart (fr ++ r2) = some (f, r2) := by
  cases h with
  | none =>
    simp only [List.nil_append]
    unfold fracPart
    split
    · exact absurd rfl (h46 _)
    · rfl
  | some f' hf =>
    obtain ⟨h2, h3⟩ := takeDigits_isD hf hr
    simp only [fracPart, List.cons_append, h2, h3, Bool.false_eq_true, if_false]

/-- the follow condition under which `takeDigits` and `fracPart` stop where the exponent part begins -/
theorem isExp_head {ex : List Nat} {e : Option (Bool × List Nat)} (h : IsExp ex e) :
    NoDig ex ∧ (∀ t, ex ≠ 46 :: t) := by
  cases h with
  | none => exact ⟨noDig_nil, by simp⟩
  | some m es ed so hm hs hd =>
    refine ⟨noDig_cons ?_, ?_⟩
    · simp only [isDigit, Bool.and_eq_false_iff, decide_eq_false_iff_not]; omega
    · intro t e; simp only [List.cons_append] at e; injection e with e _; omega

theorem parseFiniteBody_iff {neg : Bool} {cs : List Nat} {num : Numeral} :
    parseFiniteBody neg cs = some num ↔
      ∃ i fr ex f e, cs = i ++ fr ++ ex ∧ IsD i ∧ IsFrac fr f ∧ IsExp ex e ∧
        num = .finite neg (i.map (· - 48)) f e := by
  rw [parseFiniteBody_eq]
  constructor
  · intro h
    split at h
    · cases h
    next hne =>
      obtain ⟨run, hD, h3, h5, -⟩ := takeDigits_isD_sound cs (by simpa using hne)
      split at h
      · cases h
      next fr r2 hfr =>
        obtain ⟨frt, hf1, hf2⟩ := fracPart_sound hfr
        obtain ⟨e, he1, rfl⟩ := expTail_iff.mp h
        exact ⟨run, frt, r2, fr, e, by rw [List.append_assoc, ← hf1, ← h3], hD, hf2, he1, by rw [h5]⟩
  · rintro ⟨i, fr, ex, f, e, rfl, hi, hf, he, rfl⟩
    have hx := isExp_head he
    have hfrx : NoDig (fr ++ ex) := by
      cases hf with
      | none => exact hx.1
      | some f' _ => exact noDig_cons rfl
    obtain ⟨h1, h3⟩ := takeDigits_isD hi hfrx
    rw [List.append_assoc]
    simp only [h1, h3, Bool.false_eq_true, if_false, fracPart_complete hf hx.1 hx.2]
    exact expTail_iff.mpr ⟨e, he, rfl⟩

/-! ## The special body `inf (inity)? | s? nan ( \( D? \) )?` -/

/-- what `parseSpecialBody` does after the optional `s` -/
def nanTail (neg sig : Bool) (r : List Nat) : Option Numeral :=
  match kw "nan" r with
  | some [] => some (.nan neg sig none)
  | some (40 :: r2) =>
      let (ds, r3) := takeDigits r2
      if r3 = [41] then some (.nan neg sig (some ds)) else none
  | _ => none

theorem parseSpecialBody_eq (neg : Bool) (cs : List Nat) :
    parseSpecialBody neg cs =
      match kw "inf" cs with
      | some [] => some (.inf neg)
      | some r => (match kw "inity" r with | some [] => some (.inf neg) | _ => none)
      | none => match kw "s" cs with
        | some r => nanTail neg true r
        | none => nanTail neg false cs := by
  unfold parseSpecialBody nanTail
  cases kw "s" cs <;> rfl

theorem nanTail_iff {neg g : Bool} {r : List Nat} {num : Numeral} :
    nanTail neg g r = some num ↔
      ∃ w pl p, r = w ++ pl ∧ IsWord "nan" w ∧ IsPayload pl p ∧ num = .nan neg g p := by
  constructor
  · intro h
    unfold nanTail at h
    split at h
    · rename_i heq
      obtain ⟨pre, h1, h2⟩ := kw_iff.mp heq
      injection h with h
      exact ⟨pre, [], none, h1, h2, .none, h.symm⟩
    · rename_i r2 heq
      obtain ⟨pre, h1, h2⟩ := kw_iff.mp heq
      obtain ⟨run, h3, h4, h5, h6⟩ := takeDigits_sound r2
      simp only at h
      split at h
      · rename_i h41
        injection h with h
        refine ⟨pre, 40 :: run ++ [41], some (run.map (· - 48)), ?_, h2, .some run h4, ?_⟩
        · rw [h1, List.cons_append, ← h41, ← h3]
        · rw [← h, h5]
      · cases h
    · cases h
  · rintro ⟨w, pl, p, rfl, hw, hp, rfl⟩
    have hk : kw "nan" (w ++ pl) = some pl := kw_iff.mpr ⟨w, rfl, hw⟩
    unfold nanTail
    rw [hk]
    cases hp with
    | none => rfl
    | some ds hd =>
      have h2 : takeDigits (ds ++ [41]) = (ds.map (· - 48), [41]) := takeDigits_run hd (noDig_cons rfl)
      simp only [List.cons_append, h2, if_true]

theorem kw_none_of_head {w : String} {c0 : Nat} {w0 : List Nat} (hw : w.toList.map Char.toNat = c0 :: w0)
    {c : Nat} (t : List Nat) (hc : lower c ≠ c0) : kw w (c :: t) = none := by
  rw [kw_none_iff, hw]
  simp only [List.length_cons, List.take_succ_cons, List.map_cons]
  intro e; injection e with e _; exact hc e

theorem parseSpecialBody_s {neg : Bool} {c : Nat} {rest : List Nat} (hc : lower c = 115) :
    parseSpecialBody neg (c :: rest) = nanTail neg true rest := by
  rw [parseSpecialBody_eq, kw_none_of_head word_inf _ (by omega), kw_s, List.take_succ_cons,
    List.take_zero, List.map_singleton, hc, if_pos rfl]
  rfl

theorem parseSpecialBody_n {neg : Bool} {c : Nat} {rest : List Nat} (hc : lower c = 110) :
    parseSpecialBody neg (c :: rest) = nanTail neg false (c :: rest) := by
  rw [parseSpecialBody_eq, kw_none_of_head word_inf _ (by omega),
    kw_none_of_head word_s _ (by omega)]

theorem parseSpecialBody_other {neg : Bool} {c : Nat} {rest : List Nat} (h1 : lower c ≠ 105) (h2 : lower c ≠ 115)
    (h3 : lower c ≠ 110) : parseSpecialBody neg (c :: rest) = none := by
  rw [parseSpecialBody_eq, kw_none_of_head word_inf _ h1, kw_none_of_head word_s _ h2,
    nanTail, kw_none_of_head word_nan _ h3]

theorem isWord_head {w : String} {l : List Nat} (h : IsWord w l) {c0 : Nat} {w0 : List Nat}
    (hw : w.toList.map Char.toNat = c0 :: w0) : ∃ a t, l = a :: t ∧ lower a = c0 := by
  unfold IsWord at h
  rw [hw] at h
  cases l with
  | nil => cases h
  | cons a t => exact ⟨a, t, rfl, (List.cons.inj h).1⟩

/-- `infinity` is `inf` followed by `inity`, which is how the recogniser reads it -/
theorem isWord_infinity_split {w : List Nat} (h : IsWord "infinity" w) :
    IsWord "inf" (w.take 3) ∧ IsWord "inity" (w.drop 3) := by
  rw [isWord_infinity] at h
  constructor
  · rw [isWord_inf, List.map_take, h]; rfl
  · rw [isWord_inity, List.map_drop, h]; rfl

theorem parseSpecialBody_iff {neg : Bool} {cs : List Nat} {num : Numeral} :
    parseSpecialBody neg cs = some num ↔
      (IsWord "inf" cs ∧ num = .inf neg) ∨ (IsWord "infinity" cs ∧ num = .inf neg) ∨
      ∃ sn w pl g p, cs = sn ++ w ++ pl ∧ IsSig sn g ∧ IsWord "nan" w ∧ IsPayload pl p ∧ num = .nan neg g p := by
  rw [parseSpecialBody_eq]
  constructor
  · intro h
    split at h
    · rename_i heq
      obtain ⟨pre, h1, h2⟩ := kw_iff.mp heq
      injection h with h
      left; rw [h1, List.append_nil]; exact ⟨h2, h.symm⟩
    · rename_i r hne heq
      obtain ⟨pre, h1, h2⟩ := kw_iff.mp heq
      split at h
      · rename_i heq2
        obtain ⟨pre2, h3, h4⟩ := kw_iff.mp heq2
        injection h with h
        right; left
        refine ⟨?_, h.symm⟩
        rw [h1, h3, List.append_nil]
        rw [isWord_inf] at h2
        rw [isWord_inity] at h4
        rw [isWord_infinity, List.map_append, h2, h4]; rfl
      · cases h
    · rename_i heq
      right; right
      split at h
      · rename_i r heq2
        obtain ⟨pre, h1, h2⟩ := kw_iff.mp heq2
        obtain ⟨w, pl, p, h3, h4, h5, h6⟩ := nanTail_iff.mp h
        exact ⟨pre, w, pl, true, p, by rw [h1, h3, List.append_assoc], .signalling pre h2, h4, h5, h6⟩
      · obtain ⟨w, pl, p, h3, h4, h5, h6⟩ := nanTail_iff.mp h
        exact ⟨[], w, pl, false, p, by rw [h3]; rfl, .quiet, h4, h5, h6⟩
  · rintro (⟨hw, rfl⟩ | ⟨hw, rfl⟩ | ⟨sn, w, pl, g, p, rfl, hs, hw, hp, rfl⟩)
    · rw [kw_iff.mpr ⟨cs, (List.append_nil cs).symm, hw⟩]
    · obtain ⟨h1, h2⟩ := isWord_infinity_split hw
      rw [(kw_iff (w := "inf")).mpr ⟨_, (List.take_append_drop 3 cs).symm, h1⟩]
      cases hr : cs.drop 3 with
      | nil => rfl
      | cons x xs => simp only [(kw_iff (w := "inity")).mpr ⟨_, (List.append_nil _).symm, hr ▸ h2⟩]
    · obtain ⟨a, t, rfl, ha⟩ := isWord_head hw word_nan
      have hn := (nanTail_iff (neg := neg) (g := g)).mpr ⟨a :: t, pl, p, rfl, hw, hp, rfl⟩
      cases hs with
      | quiet =>
        rw [List.nil_append, List.cons_append, kw_none_of_head word_inf _ (by omega), kw_none_of_head word_s _ (by omega)]
        exact hn
      | signalling l hl =>
        obtain ⟨x, u, rfl, hx⟩ := isWord_head hl word_s
        rw [List.append_assoc, List.cons_append, kw_none_of_head word_inf _ (by omega),
          (kw_iff (w := "s")).mpr ⟨x :: u, (List.cons_append ..).symm, hl⟩]
        exact hn

theorem parse_eq (cs : List Nat) :
    parse cs =
      match (takeSign cs).2 with
      | c :: _ =>
        if isDigit c then parseFiniteBody ((takeSign cs).1.getD false) (takeSign cs).2
        else parseSpecialBody ((takeSign cs).1.getD false) (takeSign cs).2
      | [] => none := rfl

theorem parse_sign_body {sg : List Nat} {s : Option Bool} (hs : IsSign sg s) (c : Nat) (t : List Nat)
    (hc : c ≠ 43 ∧ c ≠ 45) :
    parse (sg ++ c :: t) =
      if isDigit c then parseFiniteBody (s.getD false) (c :: t) else parseSpecialBody (s.getD false) (c :: t) := by
  rw [parse_eq, takeSign_complete hs (noSgn_cons hc)]

theorem parse_sound {txt : List Nat} {num : Numeral} (h : parse txt = some num) : Matches txt num := by
  rw [parse_eq] at h
  obtain ⟨sg, h1, h2⟩ := takeSign_sound txt
  split at h
  · rename_i c t heq
    rw [h1]
    split at h
    · obtain ⟨i, fr, ex, f, e, h3, hi, hf, he, rfl⟩ := parseFiniteBody_iff.mp h
      rw [h3, ← List.append_assoc, ← List.append_assoc]
      exact .finite sg i fr ex _ f e h2 hi hf he
    · rcases parseSpecialBody_iff.mp h with ⟨hw, rfl⟩ | ⟨hw, rfl⟩ | ⟨sn, w, pl, g, p, h3, hs, hw, hp, rfl⟩
      · exact .inf sg _ _ h2 hw
      · exact .infinity sg _ _ h2 hw
      · rw [h3, ← List.append_assoc, ← List.append_assoc]
        exact .nan sg sn w pl _ g p h2 hs hw hp
  · cases h

/-- `hb`, `ht` let the caller name body and text in the shape it has them, instead of reshaping to `sg ++ (l ++ r)` -/
theorem parse_sign_word {sg : List Nat} {s : Option Bool} (hs : IsSign sg s) {w : String} {l : List Nat}
    (hw : IsWord w l) {c0 : Nat} {w0 : List Nat} (hw0 : w.toList.map Char.toNat = c0 :: w0) (hc0 : 97 ≤ c0 ∧ c0 ≤ 122)
    {r b txt : List Nat} (hb : b = l ++ r) (ht : txt = sg ++ b) :
    parse txt = parseSpecialBody (s.getD false) b := by
  obtain ⟨a, t, rfl, ha⟩ := isWord_head hw hw0
  have hl := lower_letter (c := a) (by omega)
  subst hb ht
  rw [List.cons_append, parse_sign_body hs a _ hl.2, if_neg (by simp [hl.1])]

theorem parse_complete {txt : List Nat} {num : Numeral} (h : Matches txt num) : parse txt = some num := by
  cases h with
  | finite sg i fr ex s f e hs hi hf he =>
    obtain ⟨hne, hd⟩ := hi
    cases i with
    | nil => exact absurd rfl hne
    | cons c t =>
      have hc : isDigit c = true := hd c (by simp)
      have hc' := isDigit_iff.mp hc
      have e1 : sg ++ c :: t ++ fr ++ ex = sg ++ c :: (t ++ fr ++ ex) := by simp
      rw [e1, parse_sign_body hs c _ (by omega), if_pos hc]
      exact parseFiniteBody_iff.mpr ⟨c :: t, fr, ex, f, e, by simp, ⟨hne, hd⟩, hf, he, rfl⟩
  | inf sg w s hs hw =>
    rw [parse_sign_word hs hw word_inf (by decide) (List.append_nil w).symm rfl]
    exact parseSpecialBody_iff.mpr (.inl ⟨hw, rfl⟩)
  | infinity sg w s hs hw =>
    rw [parse_sign_word hs hw word_infinity (by decide) (List.append_nil w).symm rfl]
    exact parseSpecialBody_iff.mpr (.inr (.inl ⟨hw, rfl⟩))
  | nan sg sn w pl s g p hs hg hw hp =>
    have hb := (parseSpecialBody_iff (neg := s.getD false)).mpr (.inr (.inr ⟨sn, w, pl, g, p, rfl, hg, hw, hp, rfl⟩))
    cases hg with
    | quiet => rwa [parse_sign_word hs hw word_nan (by decide) (b := [] ++ w ++ pl) (r := pl) rfl (by simp)]
    | signalling l hl => rwa [parse_sign_word hs hl word_s (by decide) (List.append_assoc sn w pl) (by simp)]

end Grammar

/-- **The reference recogniser is the grammar of C06**, for every byte list -/
theorem parse_iff_matches (txt : List Nat) (num : Numeral) : parse txt = some num ↔ Matches txt num :=
  ⟨Grammar.parse_sound, Grammar.parse_complete⟩

theorem parse_isSome_iff (txt : List Nat) : (parse txt).isSome ↔ ∃ num, Matches txt num := by
  rw [Option.isSome_iff_exists]
  exact exists_congr fun num => parse_iff_matches txt num

theorem matches_unique (txt : List Nat) (a b : Numeral) : Matches txt a → Matches txt b → a = b := by
  intro ha hb
  have h1 := (parse_iff_matches txt a).mpr ha
  have h2 := (parse_iff_matches txt b).mpr hb
  rw [h1] at h2
  exact Option.some.inj h2

theorem finite_text {t : List Nat} {num : Numeral} (h : parse t = some num) {s : Bool} {c : Nat} {q : Int}
    (hd : num.datum = .fin s c q) : ∃ sg so d rest, t = sg ++ d :: rest ∧ IsSign sg so ∧ isDigit d = true := by
  cases Grammar.parse_sound h with
  | finite sg i fr ex s f e hs hi hf he =>
    obtain ⟨a, l, rfl⟩ := List.exists_cons_of_ne_nil hi.1
    exact ⟨sg, s, a, l ++ fr ++ ex, by simp, hs, hi.2 a (by simp)⟩
  | inf sg w s hs hw => simp [Numeral.datum] at hd
  | infinity sg w s hs hw => simp [Numeral.datum] at hd
  | nan sg sn w pl s g p hs hg hw hpl => simp [Numeral.datum] at hd

/-- what the float-text contract (C12) needs of the grammar: written digits are decimal digits -/
theorem parse_finite_digits {txt : List Nat} {s : Bool} {i fr : List Nat} {ex : Option (Bool × List Nat)}
    (h : parse txt = some (.finite s i fr ex)) : (∀ d ∈ i, d ≤ 9) ∧ (∀ d ∈ fr, d ≤ 9) := by
  have key : ∀ l : List Nat, (∀ c ∈ l, isDigit c = true) → ∀ d ∈ l.map (· - 48), d ≤ 9 := by
    intro l hl d hd
    obtain ⟨c, hc, rfl⟩ := List.mem_map.1 hd
    have := Grammar.isDigit_iff.1 (hl c hc)
    omega
  cases Grammar.parse_sound h with
  | finite sg i' fr' ex' s' f e hs hi hf he =>
    refine ⟨key _ hi.2, ?_⟩
    cases hf with
    | none => nofun
    | some f0 hf0 => exact key _ hf0.2

/-! ## Concrete instances (the grammar is neither empty nor everything) -/

/-- `-12.5E+3`, decomposed by hand -/
example : Matches [45, 49, 50, 46, 53, 69, 43, 51] (.finite true [1, 2] [5] (some (false, [3]))) :=
  Matches.finite [45] [49, 50] [46, 53] [69, 43, 51] (some true) [5] (some (false, [3])) .minus
    ⟨by simp, by decide⟩ (.some [53] ⟨by simp, by decide⟩)
    (.some 69 [43] [51] (some false) (Or.inr rfl) .plus ⟨by simp, by decide⟩)

/-- `+Infinity` -/
example : Matches [43, 73, 110, 102, 105, 110, 105, 116, 121] (.inf false) :=
  Matches.infinity [43] [73, 110, 102, 105, 110, 105, 116, 121] (some false) .plus (by decide +kernel)

/-- `sNaN(07)` -/
example : Matches [115, 78, 97, 78, 40, 48, 55, 41] (.nan false true (some [0, 7])) :=
  Matches.nan [] [115] [78, 97, 78] [40, 48, 55, 41] none true (some [0, 7]) .none
    (.signalling _ (by decide +kernel)) (by decide +kernel) (.some [48, 55] (by decide))

/-- `nan()` has the empty payload, `nan` has none -/
example : Matches [110, 97, 110, 40, 41] (.nan false false (some [])) :=
  (parse_iff_matches _ _).mp (by decide +kernel)
example : Matches [110, 97, 110] (.nan false false none) :=
  (parse_iff_matches _ _).mp (by decide +kernel)

/-- `1.`, `.5`, `1e`, `+`, `in`, `nan(`, `1 ` (trailing space) and the empty text match nothing -/
example : ∀ txt ∈ [[49, 46], [46, 53], [49, 101], [43], [105, 110], [110, 97, 110, 40], [49, 32], []],
    ¬ ∃ num, Matches txt num := by
  intro txt h
  rw [← parse_isSome_iff]
  revert txt
  decide +kernel

/-- `matches_unique` at work: `1e5` has one reading only, mantissa `1` with exponent `5` -/
example (num : Numeral) (h : Matches [49, 101, 53] num) : num = .finite false [1] [] (some (false, [5])) :=
  matches_unique _ _ _ h ((parse_iff_matches _ _).mp (by decide +kernel))

/-- `1e+` continued by `7` is a numeral -/
example : ∃ q, (parse ([49, 101, 43] ++ q)).isSome := ⟨[55], by decide +kernel⟩

end Decstr.Proofs

#print axioms Decstr.Proofs.parse_iff_matches
#print axioms Decstr.Proofs.parse_isSome_iff
#print axioms Decstr.Proofs.matches_unique
