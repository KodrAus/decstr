import Decstr.Proofs.ParseLemmas
import Decstr.Proofs.Widths
/-!
# Proofs.Format — the formatter (`decimal_to_fmt`) against the numeral grammar (C02, side lemma of C03)

`fmtFinite` and `fmtNan` produce texts which `Spec.parse` accepts and which denote exactly what was formatted.
The finite arm is `fmtS`, the layouts written out as texts, of the digit string without its leading zeros.  Every
layout is a digit string, whole or with a point inside, with or without an exponent part: two shape lemmas give the
numeral and its datum.  Lists of ASCII digits only — no bits.  Core Lean only.
-/
namespace Decstr.Proofs
open Decstr.Model Decstr.Spec

theorem drop_takeWhile_length (p : Nat → Bool) (l : List Nat) : l.drop (l.takeWhile p).length = l.dropWhile p := by
  induction l with
  | nil => rfl
  | cons a l ih =>
    by_cases h : p a = true
    · simp [h, ih]
    · simp [h]

theorem dropWhile_ne_nil_of_three (d : List Nat) (h3 : d.length = 3) (hne : d ≠ [48, 48, 48]) :
    d.dropWhile (· == 48) ≠ [] := by
  match d, h3 with
  | [a, b, c], _ =>
    by_cases ha : a = 48
    · by_cases hb : b = 48
      · by_cases hc : c = 48
        · subst ha hb hc; exact absurd rfl hne
        · simp [ha, hb, hc]
      · simp [ha, hb]
    · simp [ha]

/-- the result of `skipLeadingZeroes`: `S` is the digit string from the first non-zero digit on, `total` the number of
    digit positions counted (skipped or kept).  `shape`: no partial declet only when the iterator is exhausted, so the
    arm of `write_all_as_scientific` that is not modelled cannot be reached (read in `writeAllAsScientific_eq`). -/
structure SkipOK (total : Nat) (S : List Nat) (lz : LeadingZeroes) (rest : List (List Nat)) : Prop where
  body : lz.partialDeclet.getD [] ++ rest.flatten = S
  count : lz.skipped + S.length = total
  shape : match lz.partialDeclet with | none => rest = [] | some ds => ds ≠ []
  rest3 : ∀ d ∈ rest, d.length = 3

theorem skip_go_spec (dl : List (List Nat)) (h3 : ∀ d ∈ dl, d.length = 3) (k : Nat) :
    SkipOK (k + dl.flatten.length) (dl.flatten.dropWhile (· == 48))
      (skipLeadingZeroes.go k dl).1 (skipLeadingZeroes.go k dl).2 := by
  induction dl generalizing k with
  | nil => exact ⟨rfl, rfl, rfl, fun _ hd => (nomatch hd)⟩
  | cons d rest ih =>
    have hd3 := h3 d (by simp)
    have hrest : ∀ x ∈ rest, x.length = 3 := fun x hx => h3 x (by simp [hx])
    by_cases hz : d = [48, 48, 48]
    · subst hz
      have := ih hrest (k + 3)
      -- the three skipped zeros are counted on both sides
      rw [Nat.add_assoc, Nat.add_comm 3] at this
      simp only [skipLeadingZeroes.go, if_true]
      exact this
    · have hne := dropWhile_ne_nil_of_three d hd3 hz
      have hlen : (d.takeWhile (· == 48)).length + (d.dropWhile (· == 48)).length = d.length := by
        rw [← List.length_append, List.takeWhile_append_dropWhile]
      simp only [skipLeadingZeroes.go, hz, if_false, List.flatten_cons,
        List.dropWhile_append, List.isEmpty_iff, hne, if_false, List.length_append]
      exact ⟨by rw [Option.getD_some, drop_takeWhile_length], by simp only [List.length_append]; omega,
        by rw [drop_takeWhile_length]; exact hne, hrest⟩

/-- the most significant digit is skipped as the declet `[b'0', b'0', msd_ascii]` of `skip_leading_zeroes` -/
theorem skip_eq_go (msd : Nat) (declets : List (List Nat)) :
    skipLeadingZeroes msd declets = skipLeadingZeroes.go 0 ([48, 48, msd] :: declets) := by
  by_cases hm : msd = 48 <;> simp [skipLeadingZeroes, skipLeadingZeroes.go, hm]

theorem skip_spec (n msd : Nat) (declets : List (List Nat)) (h : DigitsOK n msd declets) :
    SkipOK (9 * n) ((msd :: declets.flatten).dropWhile (· == 48))
      (skipLeadingZeroes msd declets).1 (skipLeadingZeroes msd declets).2 := by
  have hfl := h.flatten_length
  have hn := h.pos
  rw [skip_eq_go, (by omega : 9 * n = 0 + (declets.flatten.length + 3))]
  exact skip_go_spec ([48, 48, msd] :: declets) (List.forall_mem_cons.2 ⟨rfl, h.three⟩) 0

theorem writeWithPoint_true (total : Nat) (groups : List (List Nat)) (w : Nat) :
    writeWithPoint total groups w true = groups.flatten := by
  induction groups generalizing w with
  | nil => rfl
  | cons d rest ih => simp [writeWithPoint, ih]

theorem writeWithPoint_false {total w : Nat} {groups : List (List Nat)} {S : List Nat} (hG : groups.flatten = S)
    (hw : w ≤ total) (h : total < w + S.length) :
    writeWithPoint total groups w false = S.take (total - w) ++ 46 :: S.drop (total - w) := by
  subst hG
  induction groups generalizing w with
  | nil => exact absurd h (by simpa using hw)
  | cons d rest ih =>
    rw [List.flatten_cons, List.length_append] at h
    simp only [writeWithPoint, writeDecimalDigits, Bool.false_eq_true, if_false, List.flatten_cons, List.take_append,
      List.drop_append]
    by_cases h1 : w + d.length ≤ total
    · simp only [h1, if_true]
      have hd := Nat.le_sub_of_add_le' h1
      rw [ih h1 (Nat.add_assoc .. ▸ h), List.take_of_length_le hd, List.drop_of_length_le hd, Nat.sub_sub,
        List.nil_append, List.append_assoc]
    · simp only [h1, if_false]
      have e1 : total - w - d.length = 0 := by omega
      by_cases h3 : w = total
      · subst h3
        simp [writeWithPoint_true]
      · simp [h3, writeWithPoint_true, e1]

theorem writeAllAsInteger_eq {n : Nat} {S : List Nat} {lz : LeadingZeroes} {rest : List (List Nat)}
    (h : SkipOK n S lz rest) (written : Nat) :
    writeAllAsInteger lz rest written = if written + S.length = 0 then [48] else S := by
  simp only [writeAllAsInteger, h.body]

theorem groups_flatten {n : Nat} {S : List Nat} {lz : LeadingZeroes} {rest : List (List Nat)}
    (h : SkipOK n S lz rest) :
    ((match lz.partialDeclet with | some d => [d] | none => []) ++ rest).flatten = S := by
  rw [← h.body]
  cases lz.partialDeclet <;> simp

/-- the digits part of the scientific layout: `0`, `d`, or `d.ddd` -/
def sciBody (S : List Nat) : List Nat :=
  if S = [] then [48] else if S.length = 1 then S else S.take 1 ++ 46 :: S.drop 1

theorem writeAllAsScientific_eq {n : Nat} {S : List Nat} {lz : LeadingZeroes} {rest : List (List Nat)}
    (h : SkipOK n S lz rest) (T : Ty) (e : Int) :
    writeAllAsScientific T lz rest e = sciBody S ++ 101 :: toDecimal (T.raise e (S.length - 1)) := by
  obtain ⟨sk, pd⟩ := lz
  obtain ⟨hb, -, hshape, h3⟩ := h
  subst hb
  -- on each shape of the partial declet both sides compute
  cases pd with
  | none => rw [show rest = [] from hshape]; simp [writeAllAsScientific, sciBody, intToAscii]
  | some ds =>
    match ds, (hshape : ds ≠ []) with
    | [a], _ =>
      -- a single digit in the partial declet: the point comes with the next declet
      cases rest with
      | nil => simp [writeAllAsScientific, writeDecimalDigits, sciBody, intToAscii]
      | cons d rest' =>
        have hd3 : d.length = 3 := h3 d (by simp)
        simp [writeAllAsScientific, writeDecimalDigits, sciBody, intToAscii, hd3]
    | a :: b :: ds', _ =>
      -- at least two digits: the point goes after the first
      simp [writeAllAsScientific, writeDecimalDigits, sciBody, intToAscii, Nat.add_right_comm]

/-- the finite arm as a function of the stripped digit string `S` alone: `ddd`, `ddd.ddd`, `0.000ddd` or scientific -/
def fmtS (T : Ty) (P : Nat) (S : List Nat) (e : Int) : List Nat :=
  let inI32 : Bool := T.expIsI32 || (decide (i32Min ≤ e) && decide (e ≤ i32Max))
  if e = 0 then (if S = [] then [48] else S)
  else if e < 0 ∧ inI32 = true then
    if (S.length : Int) + e > 0 then
      S.take ((S.length : Int) + e).toNat ++ 46 :: S.drop ((S.length : Int) + e).toNat
    else
      if ((S.length : Int) + e).natAbs + 2 ≤ 7 ∧ 1 + ((S.length : Int) + e).natAbs + S.length ≤ P then
        [48, 46] ++ List.replicate ((S.length : Int) + e).natAbs 48 ++ S
      else sciBody S ++ 101 :: toDecimal (T.raise e (S.length - 1))
  else sciBody S ++ 101 :: toDecimal (T.raise e (S.length - 1))

theorem fmtFinite_eq_fmtS (T : Ty) {n msd : Nat} {declets : List (List Nat)} (h : DigitsOK n msd declets) (e : Int) :
    fmtFinite T (9 * n - 2) msd declets e = fmtS T (9 * n - 2) ((msd :: declets.flatten).dropWhile (· == 48)) e := by
  have hsk := skip_spec n msd declets h
  have hn := h.pos
  generalize (msd :: declets.flatten).dropWhile (· == 48) = S at hsk ⊢
  unfold fmtFinite fmtS
  generalize skipLeadingZeroes msd declets = sk at hsk ⊢
  obtain ⟨lz, rest⟩ := sk
  change SkipOK _ S lz rest at hsk
  have hnz : (((9 * n - 2 + 2 : Nat) : Int) - (lz.skipped : Int)) = (S.length : Int) := by
    have := hsk.count; omega
  simp only [hnz, writeAllAsInteger_eq hsk, writeAllAsScientific_eq hsk, Int.toNat_natCast]
  -- the two `if` trees have the same conditions; they are walked together
  refine ite_congr rfl (fun _ => ?_) fun _ => ite_congr rfl (fun hneg => ?_) fun _ => rfl
  · simp only [Nat.zero_add, List.length_eq_zero_iff]
  · refine ite_congr rfl (fun _ => ?_) fun _ => ite_congr rfl (fun _ => ?_) fun _ => rfl
    · exact writeWithPoint_false (groups_flatten hsk) (Nat.zero_le _) (by omega)
    · -- `0.000ddd`: at least one zero is written after the point (`e < 0`), so the `"0"` of an empty body is not
      have hL : ((S.length : Int) + e).natAbs + S.length ≠ 0 := by omega
      rw [if_neg hL]

/-- the text (after the sign) is a numeral denoting `(neg, c, q)` with at most `P` written digits and a
    proper scientific layout -/
def Denotes (neg : Bool) (c : Nat) (q : Int) (P : Nat) (text : List Nat) : Prop :=
  ∃ num, parse (signText neg ++ text) = some num ∧ num.datum = .fin neg c q ∧ layoutOk num = true ∧
    num.digitCount ≤ P

theorem Denotes.congr {neg : Bool} {c c' : Nat} {q q' : Int} {P : Nat} {t t' : List Nat}
    (h : Denotes neg c q P t) (hc : c = c') (hq : q = q') (ht : t = t') : Denotes neg c' q' P t' := by
  subst hc hq ht; exact h

theorem good_whole {neg : Bool} {D : List Nat} (hD : AsciiDigits D) (hne : D ≠ []) (x : Option Int)
    (hx : x = none ∨ D.length = 1) (P : Nat) (hP : D.length ≤ P) :
    Denotes neg (valOf D) (x.getD 0) P (D ++ sciChars x) := by
  refine ⟨_, parse_formatted neg none x hD hne (by simp), ?_, ?_, ?_⟩
  · cases x with
    | none => simpa using datum_plain neg D []
    | some x => simpa using datum_sci neg D [] x
  · cases x with
    | none => rfl
    | some x => simp [layoutOk, hx.resolve_left (by simp)]
  · simpa [Numeral.digitCount] using hP

theorem good_point {neg : Bool} {D : List Nat} (hD : AsciiDigits D) {k : Nat} (hk0 : 0 < k) (hk : k < D.length)
    (x : Option Int) (P : Nat) (hP : D.length ≤ P) :
    Denotes neg (valOf D) (x.getD 0 - ((D.length - k : Nat) : Int)) P (D.take k ++ (46 :: D.drop k ++ sciChars x)) := by
  have hi : D.take k ≠ [] := List.ne_nil_of_length_pos (by rw [List.length_take]; omega)
  have hf : D.drop k ≠ [] := List.ne_nil_of_length_pos (by rw [List.length_drop]; omega)
  refine ⟨_, parse_formatted neg (some (D.drop k)) x (hD.take k) hi (by rintro _ ⟨⟩; exact ⟨hD.drop k, hf⟩), ?_, ?_, ?_⟩
  · cases x with
    | none => simpa using datum_plain neg (D.take k) (D.drop k)
    | some x => simpa using datum_sci neg (D.take k) (D.drop k) x
  · cases x with
    | none => rfl
    | some x => simp [layoutOk, digitVals_eq_nil, hf]
  · simp only [Numeral.digitCount, Option.getD_some, digitVals_length, List.length_take, List.length_drop]; omega

/-- `T.raise e k` does not saturate -/
def NoSat (T : Ty) (e : Int) (k : Nat) : Prop := T.expIsI32 = true → i32Min ≤ e + k ∧ e + k ≤ i32Max

theorem raise_eq (T : Ty) (e : Int) (k : Nat) (hT : NoSat T e k) : T.raise e k = e + k := by
  unfold Ty.raise
  cases hI : T.expIsI32 with
  | false => rfl
  | true => exact satI32_of_mem (hT hI).1 (hT hI).2

theorem sci_good {neg : Bool} {S : List Nat} (hSa : AsciiDigits S) (P : Nat) (hP : S.length ≤ P) (hP1 : 1 ≤ P)
    (T : Ty) (e : Int) (hT : NoSat T e (S.length - 1)) :
    Denotes neg (valOf S) e P (sciBody S ++ 101 :: toDecimal (T.raise e (S.length - 1))) := by
  rw [raise_eq T e _ hT]
  unfold sciBody
  split
  · next h0 =>
    subst h0
    exact (good_whole asciiDigits_zero (by simp) (some _) (.inr rfl) P hP1).congr rfl (by simp) rfl
  · next h0 =>
    split
    · next h1 => exact (good_whole hSa h0 (some _) (.inr h1) P hP).congr rfl (by simp [h1]) rfl
    · next h1 =>
      have h2 : 1 < S.length := by have := List.length_pos_iff.2 h0; omega
      exact (good_point hSa (by decide) h2 (some (e + ((S.length - 1 : Nat) : Int))) P hP).congr rfl (by simp)
        (by simp [sciChars])

theorem fmtS_good {S : List Nat} (hSa : AsciiDigits S) (P : Nat) (hSl : S.length ≤ P) (hP1 : 1 ≤ P)
    (T : Ty) (e : Int) (hT : NoSat T e (S.length - 1)) (neg : Bool) :
    Denotes neg (valOf S) e P (fmtS T P S e) := by
  have hsci := sci_good (neg := neg) hSa P hSl hP1 T e hT
  unfold fmtS
  dsimp only
  refine iteInduction (fun he0 => ?_) fun _ => iteInduction (fun hneg => ?_) fun _ => hsci
  · subst he0
    refine iteInduction (fun hS => ?_) fun hS => ?_
    · subst hS
      exact (good_whole asciiDigits_zero (by simp) none (.inl rfl) P hP1).congr rfl rfl (by simp [sciChars])
    · exact (good_whole hSa hS none (.inl rfl) P hSl).congr rfl rfl (by simp [sciChars])
  · have hlt : e < 0 := hneg.1
    refine iteInduction (fun _ => ?_) fun hle => ?_
    · exact (good_point hSa (k := ((S.length : Int) + e).toNat) (by omega) (by omega) none P hSl).congr rfl
        (by simp only [Option.getD_none]; omega) (by simp [sciChars])
    · -- `0.000ddd`: the digit string `0 0…0 S` of length `k + |S| + 1` (by `simp`) with the point after its first digit
      obtain ⟨k, hk⟩ := Int.exists_eq_neg_ofNat (Int.not_lt.1 hle)
      rw [hk, Int.natAbs_neg, Int.natAbs_natCast]
      refine iteInduction (fun _ => ?_) fun _ => hsci
      exact (good_point (D := 48 :: (List.replicate k 48 ++ S))
        (asciiDigits_cons.2 ⟨by decide, asciiDigits_append.2 ⟨asciiDigits_replicate_zero _, hSa⟩⟩) (k := 1)
        (by decide) (by simp; omega) none P (by simp; omega)).congr
        (by rw [valOf_zero_cons, valOf_replicate_zero_append]) (by simp; omega) (by simp [sciChars])

/-- the finite arm, as C02 uses it.  `hT` is what `exponent_small` provides; any bounds whose sum stays inside `i32`
    would do (`NoSat`). -/
theorem fmtFinite_good (T : Ty) {n msd : Nat} {declets : List (List Nat)} (h : DigitsOK n msd declets)
    (exponent : Int) (hT : T.expIsI32 = true → (-(2:Int)^30 ≤ exponent ∧ exponent ≤ 2^30 ∧ n ≤ 2^20)) (neg : Bool) :
    Denotes neg (valOf (msd :: declets.flatten)) exponent (9 * n - 2) (fmtFinite T (9 * n - 2) msd declets exponent) := by
  have hn := h.pos
  have hfl := h.flatten_length
  have hSl := (List.dropWhile_sublist (· == 48) (l := msd :: declets.flatten)).length_le
  rw [List.length_cons] at hSl
  rw [fmtFinite_eq_fmtS T h, ← valOf_dropWhile_zero]
  refine fmtS_good (h.ascii.dropWhile _) _ (by omega) (by omega) T exponent (fun hi => ?_) neg
  -- an exponent within `±2^30` raised by fewer than `9·2^20` digits is far inside `i32`
  obtain ⟨h1, h2, h3⟩ := hT hi
  have e30 : (2:Int)^30 = 1073741824 := by decide
  have h3' : n ≤ 1048576 := h3
  rw [e30] at h1 h2
  exact ⟨by rw [i32Min]; omega, by rw [i32Max]; omega⟩

/-- **C02 (finite).** The text is a numeral of the grammar denoting exactly (sign, coefficient, exponent);
    scientific output with more than one digit has a decimal point; the printed exponent is adjusted by exactly
    the digits after the point (that is what "denotes" says). -/
theorem fmtFinite_spec (T : Ty) (n : Nat) (msd : Nat) (declets : List (List Nat)) (h : DigitsOK n msd declets)
    (exponent : Int) (hT : T.expIsI32 = true → (-(2:Int)^30 ≤ exponent ∧ exponent ≤ 2^30 ∧ n ≤ 2^20)) (neg : Bool) :
    ∃ num, parse (signText neg ++ fmtFinite T (9 * n - 2) msd declets exponent) = some num ∧
           num.datum = .fin neg (valOf (msd :: declets.flatten)) exponent ∧ layoutOk num = true := by
  obtain ⟨num, h1, h2, h3, _⟩ := fmtFinite_good T h exponent hT neg
  exact ⟨num, h1, h2, h3⟩

/-- **Side lemma for C03.** The text never has more written digits than the precision, so the same width
    can always read it back. -/
theorem fmtFinite_digitCount (T : Ty) (n : Nat) (msd : Nat) (declets : List (List Nat)) (h : DigitsOK n msd declets)
    (exponent : Int) (hT : T.expIsI32 = true → (-(2:Int)^30 ≤ exponent ∧ exponent ≤ 2^30 ∧ n ≤ 2^20)) (neg : Bool)
    (num : Numeral) (hnum : parse (signText neg ++ fmtFinite T (9 * n - 2) msd declets exponent) = some num) :
    num.digitCount ≤ 9 * n - 2 := by
  obtain ⟨num', h1, _, _, h4⟩ := fmtFinite_good T h exponent hT neg
  rw [h1] at hnum; injection hnum with hnum; subst hnum; exact h4

/-- **C02 (NaN).** `[-][s]nan` or `[-][s]nan(payload)`: the keyword says quiet/signaling, the payload is the
    trailing digits' value, and no more than the `9n−3` trailing digits are written. -/
theorem fmtNan_spec (n : Nat) (declets : List (List Nat)) (hlen : declets.length = 3 * n - 1)
    (heach : ∀ d ∈ declets, d.length = 3 ∧ AsciiDigits d) (quiet neg : Bool) :
    ∃ num, parse (signText neg ++ fmtNan quiet declets) = some num ∧
           num.datum = .nan neg (!quiet) (valOf declets.flatten) ∧ num.digitCount ≤ 9 * n - 3 := by
  have hfl : declets.flatten.length = 9 * n - 3 := by
    rw [flatten_length_three _ fun d hd => (heach d hd).1, hlen, Nat.mul_sub, ← Nat.mul_assoc]
  have hall := (asciiDigits_flatten fun d hd => (heach d hd).2).dropWhile (· == 48)
  have hle := hfl ▸ (List.dropWhile_sublist (· == 48) (l := declets.flatten)).length_le
  rw [← valOf_dropWhile_zero]
  unfold fmtNan
  generalize declets.flatten.dropWhile (· == 48) = p at hall hle
  cases p with
  | nil => exact ⟨_, by simpa using parse_nan_bare neg quiet, rfl, Nat.zero_le _⟩
  | cons a l =>
    exact ⟨_, parse_nan_payload neg quiet hall, rfl, by
      simp only [Numeral.digitCount, Option.getD_some, digitVals_length]; exact hle⟩

/-- decimal32 digits `1 234 567` -/
example : DigitsOK 1 49 [[50, 51, 52], [53, 54, 55]] :=
  ⟨by decide, by decide, rfl, by unfold AsciiDigits; decide⟩

/-- `1234567 · 10^-3` in decimal32 prints as `1234.567`, and the theorem applies to it -/
example : fmtFinite .b32 7 49 [[50, 51, 52], [53, 54, 55]] (-3) = [49, 50, 51, 52, 46, 53, 54, 55] := by decide
example : ∃ num, parse (signText true ++ fmtFinite .b32 (9 * 1 - 2) 49 [[50, 51, 52], [53, 54, 55]] (-3)) = some num ∧
    num.datum = .fin true 1234567 (-3) ∧ layoutOk num = true :=
  fmtFinite_spec .b32 1 49 [[50, 51, 52], [53, 54, 55]] ⟨by decide, by decide, rfl, by unfold AsciiDigits; decide⟩ (-3)
    (by intro _; decide) true

/-- leading zeros and a large exponent: `0 001 200 · 10^90` prints as `1.200e93` -/
example : fmtFinite .b32 7 48 [[48, 48, 49], [50, 48, 48]] 90 = [49, 46, 50, 48, 48, 101, 57, 51] := by decide
example : ∀ num, parse (signText false ++ fmtFinite .b32 (9 * 1 - 2) 48 [[48, 48, 49], [50, 48, 48]] 90) = some num →
    num.digitCount ≤ 9 * 1 - 2 :=
  fmtFinite_digitCount .b32 1 48 [[48, 48, 49], [50, 48, 48]] ⟨by decide, by decide, rfl, by unfold AsciiDigits; decide⟩ 90
    (by intro _; decide) false

/-- a signaling NaN with payload 42 -/
example : fmtNan false [[48, 48, 48], [48, 52, 50]] = [115, 110, 97, 110, 40, 52, 50, 41] := by decide
example : ∃ num, parse (signText false ++ fmtNan false [[48, 48, 48], [48, 52, 50]]) = some num ∧
    num.datum = .nan false true 42 ∧ num.digitCount ≤ 9 * 1 - 3 :=
  fmtNan_spec 1 [[48, 48, 48], [48, 52, 50]] rfl (by unfold AsciiDigits; decide) false false

end Decstr.Proofs

#print axioms Decstr.Proofs.fmtFinite_good
#print axioms Decstr.Proofs.fmtFinite_spec
#print axioms Decstr.Proofs.fmtFinite_digitCount
#print axioms Decstr.Proofs.fmtNan_spec
