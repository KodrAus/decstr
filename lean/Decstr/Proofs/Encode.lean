import Decstr.Proofs.EncodeSig
import Decstr.Proofs.EncodeComb
/-!
# Proofs.Encode — the encoder of the model is the IEEE 754-2019 §3.5.2 encoding, for every width `32n`

The significand encoder (EncodeSig) and the combination encoder (EncodeComb) compose to `Spec.encodeFin` (the core of
C01); the two limits (C18) are instances of that composition; infinities and NaNs (C09) are one byte write on top of a
trailing significand.
The statements of the four `Encode*` files spell the format's numbers out (`2 * n + 4`, `30 * n - 10`, `3 * n - 1`,
`9 * n - 2`), as the model computes them from the buffer's length; `SpecLemmas` speaks of the projections `(Fmt.mk n).w`,
`.t`, `.declets`, `.p`, which are the same by `rfl` but not for `rw`: a proof that crosses over unfolds `Fmt.w` … once.
-/
namespace Decstr.Proofs
open Decstr.Model Decstr.Spec

open EncodeAux

theorem biased_lt (n : Nat) (q : Int) (hq : (Fmt.mk n).qmin ≤ q ∧ q ≤ (Fmt.mk n).qmax) :
    (q + ((Fmt.mk n).bias : Int)).toNat < 3 * 2 ^ (2 * n + 4) := by
  have h1 := hq.1
  simp only [Fmt.qmin] at h1
  exact (exp_le_qmax_iff n _).1 (by omega)

theorem combination_encodeFin (n : Nat) (hn : 0 < n) (neg : Bool) (c : Nat) (hc : c < 10 ^ (9 * n - 2))
    (q : Int) (hq : (Fmt.mk n).qmin ≤ q ∧ q ≤ (Fmt.mk n).qmax) :
    encodeCombinationFinite ⟨4 * n, trailingEncode (3 * n - 1) (c % 1000 ^ (3 * n - 1))⟩ neg
        (biasOf (32 * n) (9 * n - 2) + q).toNat (c / 1000 ^ (3 * n - 1))
      = ⟨4 * n, encodeFin ⟨n⟩ neg c q⟩ := by
  have hmsd : c / 1000 ^ (3 * n - 1) < 10 := by
    rw [Nat.div_lt_iff_lt_mul (Nat.pow_pos (by decide))]
    exact Nat.lt_of_lt_of_eq hc (ten_pow_p n hn)
  have hT : trailingEncode (3 * n - 1) (c % 1000 ^ (3 * n - 1)) < 2 ^ (30 * n - 10) := trailingEncode_lt_t n _
  rw [biasOf_eq n hn, Int.add_comm, encodeCombinationFinite_spec n hn _ hT neg _ (biased_lt n q hq) _ hmsd]
  rfl

theorem encode_finite_bits (n : Nat) (hn : 0 < n) (neg : Bool) (ds : List Nat) (hds : AsciiDigits ds) (hne : ds ≠ [])
    (hlen : ds.length ≤ (Fmt.mk n).p) (q : Int) (hq : (Fmt.mk n).qmin ≤ q ∧ q ≤ (Fmt.mk n).qmax) :
    encodeCombinationFinite (encodeSignificand (Buf.zero (4 * n)) ds).1 neg
        (biasOf (32 * n) (9 * n - 2) + q).toNat (encodeSignificand (Buf.zero (4 * n)) ds).2
      = ⟨4 * n, encodeFin ⟨n⟩ neg (valOf ds) q⟩ := by
  obtain ⟨h1, h2⟩ := encodeSignificand_spec n hn ds hds hne hlen
  rw [h1, h2]
  apply combination_encodeFin n hn neg _ _ q hq
  exact valOf_lt_of_le hds hlen

theorem encodeFin_lt (n : Nat) (hn : 0 < n) (neg : Bool) (c : Nat) (hc : c < 10 ^ (9 * n - 2))
    (q : Int) (hq : (Fmt.mk n).qmin ≤ q ∧ q ≤ (Fmt.mk n).qmax) : encodeFin ⟨n⟩ neg c q < 2 ^ (32 * n) :=
  (decode_encodeFin n hn neg c q hc hq).2

namespace EncodeAux

theorem byte_fields (neg : Bool) (g m i : Nat) :
    ((if neg then 2 ^ 7 else 0) + g * 2 ^ m) * 2 ^ (8 * i) = (if neg then 2 ^ (8 * i + 7) else 0) + g * 2 ^ (8 * i + m) := by
  rw [Nat.add_mul, Nat.mul_assoc, ← Nat.pow_add, Nat.add_comm m]
  cases neg
  · rw [if_neg Bool.false_ne_true, if_neg Bool.false_ne_true, Nat.zero_mul]
  · rw [if_pos rfl, if_pos rfl, ← Nat.pow_add, Nat.add_comm 7]

/-- the sign and `11110` in bits 2–6 -/
theorem inf_byte (neg : Bool) :
    (if neg then INFINITY ||| SIGN_NEGATIVE else INFINITY) % 256 = (if neg then 2 ^ 7 else 0) + 30 * 2 ^ 2 := by
  cases neg <;> rfl

/-- the sign and `11111s` in bits 1–6 -/
theorem nan_byte (neg sig : Bool) :
    (NAN ||| (if neg then SIGN_NEGATIVE else 0) ||| (if sig then SIGNALING else 0)) % 256
      = (if neg then 2 ^ 7 else 0) + (62 + if sig then 1 else 0) * 2 ^ 1 := by
  cases neg <;> cases sig <;> rfl

end EncodeAux

theorem encodeInfinity_spec (n : Nat) (hn : 0 < n) (neg : Bool) :
    encodeInfinity (Buf.zero (4 * n)) neg = ⟨4 * n, encodeInf ⟨n⟩ neg⟩ := by
  obtain ⟨-, htw, hk⟩ := lastByte_layout n hn
  show (Buf.mk (4 * n) 0).setAt (4 * n - 1) _ = _
  rw [Buf.setAt_fresh (Nat.two_pow_pos _), inf_byte, byte_fields, encodeInf, signBit, Fmt.k, Fmt.w, Fmt.t, hk, Nat.mul_assoc,
    ← Nat.pow_add, Nat.add_comm (2 * n + 4), htw, Nat.zero_add]

theorem encodeNan_bits (n : Nat) (hn : 0 < n) (neg sig : Bool) (P : Nat) :
    encodeNan ⟨4 * n, trailingEncode (3 * n - 1) P⟩ neg sig = ⟨4 * n, Spec.encodeNan ⟨n⟩ neg sig P⟩ := by
  obtain ⟨hle, htw, hk⟩ := lastByte_layout n hn
  have hT : trailingEncode (3 * n - 1) P < 2 ^ (30 * n - 10) := trailingEncode_lt_t n _
  -- the field `11111s` starts one bit below the end of the exponent continuation (`htw`)
  rw [Model.encodeNan, Buf.setAt_fresh (Nat.lt_of_lt_of_le hT (Nat.pow_le_pow_right (by decide) hle)), nan_byte, byte_fields,
    Spec.encodeNan, signBit, Fmt.k, Fmt.w, Fmt.t, Fmt.declets, hk, Nat.mul_assoc, ← Nat.pow_add, Nat.add_comm (2 * n + 4 - 1),
    show 30 * n - 10 + (2 * n + 4 - 1) = 8 * (4 * n - 1) + 1 from Nat.succ.inj htw, Nat.add_comm (trailingEncode _ _)]

theorem encodeNan_spec (n : Nat) (hn : 0 < n) (neg sig : Bool) (ds : List Nat) (hds : AsciiDigits ds) (hne : ds ≠ [])
    (hlen : ds.length + 1 ≤ 9 * n - 2) :
    encodeNan (encodeSignificand (Buf.zero (4 * n)) ds).1 neg sig = ⟨4 * n, Spec.encodeNan ⟨n⟩ neg sig (valOf ds)⟩ := by
  have hv : valOf ds < 1000 ^ (3 * n - 1) :=
    valOf_lt_thousands hds (Nat.le_of_succ_le_succ (Nat.le_trans hlen (Nat.le_of_eq (fmt_p n hn))))
  rw [(encodeSignificand_spec n hn ds hds hne (Nat.le_of_succ_le hlen)).1, Nat.mod_eq_of_lt hv]
  exact encodeNan_bits n hn neg sig _

theorem encodeNan_nopayload (n : Nat) (hn : 0 < n) (neg sig : Bool) :
    encodeNan (Buf.zero (4 * n)) neg sig = ⟨4 * n, Spec.encodeNan ⟨n⟩ neg sig 0⟩ := by
  have := encodeNan_bits n hn neg sig 0
  rwa [trailingEncode_zero] at this

/-- the exponents `encode_max` and `encode_min` compute -/
theorem maxExponent_eq (n : Nat) (hn : 0 < n) : emaxOf (32 * n) - ((9 * n - 2 - 1 : Nat) : Int) = (Fmt.mk n).qmax := by
  rw [emaxOf_eq]; simp only [Fmt.qmax, Fmt.p]; omega

theorem minExponent_eq (n : Nat) (hn : 0 < n) : 1 - emaxOf (32 * n) + 1 - ((9 * n - 2 : Nat) : Int) = (Fmt.mk n).qmin := by
  rw [emaxOf_eq]; simp only [Fmt.qmin, Fmt.bias, Fmt.p]; omega

theorem encodeMax_spec (n : Nat) (hn : 0 < n) (neg : Bool) :
    encodeMax (4 * n) neg = ⟨4 * n, encodeFin ⟨n⟩ neg (10 ^ (9 * n - 2) - 1) (Fmt.mk n).qmax⟩ := by
  have hl : (encodeSignificand (Buf.zero (4 * n)) (List.replicate (9 * n - 2) 57)).1.len = 4 * n := encodeSignificand_len _ _
  -- the right side is `encode_finite_bits` on `p` nines at the exponent `encode_max` computes
  rw [← Nat.eq_sub_of_add_eq (valOf_replicate_nine (9 * n - 2)),
    ← encode_finite_bits n hn neg _ (fun d hd => by rw [(List.mem_replicate.1 hd).2]; decide)
      (by rw [Ne, List.replicate_eq_nil_iff]; omega) (by rw [List.length_replicate]; exact Nat.le_refl _) _
      ⟨qmin_le_qmax n, Int.le_refl _⟩,
    ← maxExponent_eq n hn]
  simp only [encodeMax, encodeSignificandRepeat_eq _ 57 (9 * n - 2) (by rw [declets_zero n hn]; omega),
    Buf.widthBits_of_len hl, Buf.precision_of_len hl, Buf.widthBits_of_len (b := Buf.zero (4 * n)) rfl,
    Buf.precision_of_len (b := Buf.zero (4 * n)) rfl]

theorem encodeMin_spec (n : Nat) (hn : 0 < n) (neg : Bool) :
    encodeMin (4 * n) neg = ⟨4 * n, encodeFin ⟨n⟩ neg 1 (Fmt.mk n).qmin⟩ := by
  have hds : AsciiDigits [49] := by unfold AsciiDigits; decide
  have hl : (encodeSignificand (Buf.zero (4 * n)) [49]).1.len = 4 * n := encodeSignificand_len _ _
  have hq := minExponent_eq n hn
  simp only [encodeMin, Buf.widthBits_of_len hl, Buf.precision_of_len hl, Buf.widthBits_of_len (b := Buf.zero (4 * n)) rfl,
    Buf.precision_of_len (b := Buf.zero (4 * n)) rfl, hq]
  exact encode_finite_bits n hn neg [49] hds (List.cons_ne_nil _ _) (fmt_p n hn ▸ Nat.le_add_left 1 _) _ ⟨Int.le_refl _, qmin_le_qmax n⟩

/-! ## non-vacuity: concrete instances meet the hypotheses (and give the familiar bit patterns) -/

section Examples

private theorem digits123 : AsciiDigits [49, 50, 51] := by unfold AsciiDigits; decide

/-- Table 3.4 row: digits 9,8,7 (read least significant first) -/
example : dpdOfBcd (bcdOfAscii (7 + 48) (8 + 48) (9 + 48)) = dpdEncode 987 :=
  dpdOfBcd_spec 9 (by decide) 8 (by decide) 7 (by decide)

/-- decimal64 (`n = 2`), the 16-digit string "1234567890123456": 5 declets and the leading digit 1 -/
example :
    (encodeSignificand (Buf.zero 8) [49,50,51,52,53,54,55,56,57,48,49,50,51,52,53,54]).2
      = valOf [49,50,51,52,53,54,55,56,57,48,49,50,51,52,53,54] / 1000 ^ 5 :=
  (encodeSignificand_spec 2 (by decide) _ (by unfold AsciiDigits; decide) (by simp) (by decide)).2

/-- decimal96 (`n = 3`, the aligned branch): any trailing significand, biased exponent 3000, leading digit 9 -/
example : encodeCombinationFinite ⟨12, 12345⟩ true 3000 9 =
    ⟨12, signBit ⟨3⟩ true + ((24 + 3000 / 2 ^ 10 * 2 + 1) * 2 ^ 10 + 3000 % 2 ^ 10) * 2 ^ 80 + 12345⟩ :=
  encodeCombinationFinite_spec 3 (by decide) 12345 (by decide) true 3000 (by decide) 9 (by decide)

/-- decimal32 (`n = 1`): "123" with exponent −2 is `1.23` -/
example : encodeCombinationFinite (encodeSignificand (Buf.zero 4) [49, 50, 51]).1 false
      (biasOf 32 7 + (-2)).toNat (encodeSignificand (Buf.zero 4) [49, 50, 51]).2
    = ⟨4, encodeFin ⟨1⟩ false 123 (-2)⟩ :=
  encode_finite_bits 1 (by decide) false [49, 50, 51] digits123 (by simp) (by decide) (-2) (by decide)

example : encodeFin ⟨1⟩ false 123 (-2) = 0x223000A3 := by decide +kernel

example : encodeInfinity (Buf.zero 4) true = ⟨4, 0xF8000000⟩ := by
  rw [encodeInfinity_spec 1 (by decide) true]; decide +kernel

/-- decimal32 NaN payloads have at most 6 digits -/
example : Model.encodeNan (encodeSignificand (Buf.zero 4) [49, 50, 51]).1 false true = ⟨4, Spec.encodeNan ⟨1⟩ false true 123⟩ :=
  encodeNan_spec 1 (by decide) false true [49, 50, 51] digits123 (by simp) (by decide)

example : Spec.encodeNan ⟨1⟩ false true 123 = 0x7E0000A3 := by decide +kernel

example : Model.encodeNan (Buf.zero 8) true false = ⟨8, 0xFC00000000000000⟩ := by
  rw [encodeNan_nopayload 2 (by decide) true false]; decide +kernel

example : encodeMax 4 false = ⟨4, 0x77F3FCFF⟩ := by
  rw [encodeMax_spec 1 (by decide) false]; decide +kernel

example : encodeMin 4 true = ⟨4, 0x80000001⟩ := by
  rw [encodeMin_spec 1 (by decide) true]; decide +kernel

end Examples

end Decstr.Proofs

#print axioms Decstr.Proofs.dpdOfBcd_spec
#print axioms Decstr.Proofs.encodeSignificand_spec
#print axioms Decstr.Proofs.encodeCombinationFinite_spec
#print axioms Decstr.Proofs.encode_finite_bits
#print axioms Decstr.Proofs.encodeInfinity_spec
#print axioms Decstr.Proofs.encodeNan_spec
#print axioms Decstr.Proofs.encodeNan_nopayload
#print axioms Decstr.Proofs.encodeMax_spec
#print axioms Decstr.Proofs.encodeMin_spec
#print axioms Decstr.Proofs.encodeFin_lt
