import Decstr.Proofs.SpecLemmas
import Decstr.Proofs.Digits
/-!
# Proofs.DecodeDpd — the DPD declet decoder and the trailing significand

`bcdOfDpd` is compared with IEEE Table 3.3 (`Spec.dpdDecode`) by one sweep over the 1024 code points; a declet read
through `readDpd` is ten bits of the pattern; the loop of `decodeDeclets` then yields `Spec.trailingDecode`.

In the three decoder files what other files build on is declared in `Decstr.Proofs` (as `_root_.Decstr.Proofs.X`, from
inside the namespace); `Decstr.Proofs.DecodeAux` holds the steps.
-/
namespace Decstr.Proofs.DecodeAux
open Decstr.Model Decstr.Spec

theorem and_shiftRight_nibble (y k : Nat) : (y &&& (15 <<< k)) >>> k = y / 2 ^ k % 16 := by
  rw [Nat.shiftRight_and_distrib, Nat.shiftLeft_shiftRight, Nat.shiftRight_eq_div_pow]
  exact Nat.and_two_pow_sub_one_eq_mod _ 4

theorem asciiOfBcd_eq (y : Nat) : asciiOfBcd y = [y / 256 % 16 + 48, y / 16 % 16 + 48, y % 16 + 48] := by
  have h8 : (y &&& 0xF00) >>> 8 = y / 256 % 16 := and_shiftRight_nibble y 8
  have h4 : (y &&& 0x0F0) >>> 4 = y / 16 % 16 := and_shiftRight_nibble y 4
  have h0 : y &&& 0x00F = y % 16 := Nat.and_two_pow_sub_one_eq_mod y 4
  rw [asciiOfBcd, h8, h4, h0]

theorem bcdOfDpd_table : ∀ x < 1024,
    bcdOfDpd x / 256 % 16 ≤ 9 ∧ bcdOfDpd x / 16 % 16 ≤ 9 ∧ bcdOfDpd x % 16 ≤ 9 ∧
    10 * (10 * (bcdOfDpd x / 256 % 16) + bcdOfDpd x / 16 % 16) + bcdOfDpd x % 16 = dpdDecode x :=
  forall_lt_of_all (by decide +kernel)

/-- every code point, canonical or not, decodes to three ASCII digits with the value IEEE Table 3.3 gives it -/
theorem _root_.Decstr.Proofs.bcdOfDpd_spec : ∀ x < 1024, AsciiDigits (asciiOfBcd (bcdOfDpd x)) ∧ valOf (asciiOfBcd (bcdOfDpd x)) = dpdDecode x := by
  intro x hx
  obtain ⟨h1, h2, h3, h4⟩ := bcdOfDpd_table x hx
  rw [asciiOfBcd_eq, ← h4]
  generalize bcdOfDpd x / 256 % 16 = a at h1 ⊢
  generalize bcdOfDpd x / 16 % 16 = b at h2 ⊢
  generalize bcdOfDpd x % 16 = c at h3 ⊢
  refine ⟨fun d hd => ?_, ?_⟩
  · simp only [List.mem_cons, List.not_mem_nil, or_false] at hd
    omega
  · simp only [valOf, digitVals, List.map, ofDigits, List.foldl, Nat.add_sub_cancel, Nat.mul_zero, Nat.zero_add]

theorem _root_.Decstr.Proofs.bcdOfDpd_low (y : Nat) : bcdOfDpd y = bcdOfDpd (y % 1024) := by
  have low : ∀ m, m < 1024 → y &&& m = (y % 1024) &&& m := fun m hm => and_mod_two_pow_of_lt y (k := 10) hm
  unfold bcdOfDpd
  simp only [low 1 (by decide), low 2 (by decide), low 4 (by decide), low 8 (by decide), low 16 (by decide),
    low 32 (by decide), low 64 (by decide), low 128 (by decide), low 256 (by decide), low 512 (by decide),
    low (2 ||| 4 ||| 8) (by decide), low (2 ||| 4 ||| 8 ||| 32 ||| 64) (by decide)]

/-- `buf[i] >> s | buf[i+1] << (8 − s)`, as the declet reader and the unaligned exponent reader build it -/
theorem _root_.Decstr.Proofs.Buf.window (b : Buf) (i : Nat) {s : Nat} (hs : s < 8) :
    (b.get i >>> s) ||| (b.get (i + 1) <<< (8 - s)) = b.bits / 2 ^ (8 * i + s) % 2 ^ (16 - s) := by
  rw [Buf.get_succ, Buf.get_eq, Proofs.window _ hs, ← div_pow_add]

theorem readDpd_eq (b : Buf) (bit : Nat) :
    readDpd b bit = b.bits / 2 ^ bit % 2 ^ (16 - bit % 8) := by
  unfold readDpd
  rw [Buf.window b _ (Nat.mod_lt _ (by decide)), Nat.div_add_mod]
  apply Nat.mod_eq_of_lt
  calc _ < 2 ^ (16 - bit % 8) := Nat.mod_lt _ (Nat.two_pow_pos _)
    _ ≤ 2 ^ 16 := Nat.pow_le_pow_right (by decide) (by omega)

theorem _root_.Decstr.Proofs.readDpd_spec (b : Buf) (bit : Nat) (he : bit % 2 = 0) : readDpd b bit % 1024 = b.bits / 2 ^ bit % 1024 := by
  rw [readDpd_eq]
  exact Nat.mod_mod_of_dvd _ (Nat.pow_dvd_pow 2 (by omega : 10 ≤ 16 - bit % 8))

/-- `trailingDecode` peels declets off the low end; the decoder's loop starts at the top one -/
theorem trailingDecode_top (k T : Nat) :
    trailingDecode (k + 1) T = trailingDecode k (T % 2 ^ (10 * k)) + 1000 ^ k * dpdDecode (T / 2 ^ (10 * k) % 1024) := by
  induction k generalizing T with
  | zero => simp [trailingDecode]
  | succ k ih =>
    have e : 2 ^ (10 * (k + 1)) = 1024 * 2 ^ (10 * k) := by rw [Nat.mul_succ, Nat.pow_add, Nat.mul_comm]
    rw [trailingDecode_succ, ih (T / 1024), trailingDecode_succ k, e, Nat.mod_mul_right_div_self, Nat.mod_mul_right_mod,
      Nat.div_div_eq_div_mul, Nat.pow_succ, Nat.mul_add, Nat.add_assoc, Nat.mul_comm (1000 ^ k) 1000, Nat.mul_assoc]

theorem declet_spec (b : Buf) (bit : Nat) (he : bit % 2 = 0) :
    (asciiOfBcd (bcdOfDpd (readDpd b bit))).length = 3 ∧ AsciiDigits (asciiOfBcd (bcdOfDpd (readDpd b bit))) ∧
    valOf (asciiOfBcd (bcdOfDpd (readDpd b bit))) = dpdDecode (b.bits / 2 ^ bit % 1024) := by
  rw [bcdOfDpd_low, readDpd_spec b bit he]
  have h := bcdOfDpd_spec (b.bits / 2 ^ bit % 1024) (Nat.mod_lt _ (by decide))
  exact ⟨rfl, h.1, h.2⟩

theorem go_spec (b : Buf) (k : Nat) :
    (decodeDeclets.go b k (10 * k)).length = k ∧
    (∀ d ∈ decodeDeclets.go b k (10 * k), d.length = 3 ∧ AsciiDigits d) ∧
    valOf (decodeDeclets.go b k (10 * k)).flatten = trailingDecode k (b.bits % 2 ^ (10 * k)) := by
  induction k with
  | zero => simp [decodeDeclets.go, trailingDecode, valOf, digitVals, ofDigits]
  | succ k ih =>
    obtain ⟨ih1, ih2, ih4⟩ := ih
    have e : 10 * (k + 1) - 10 = 10 * k := Nat.add_sub_cancel _ _
    obtain ⟨d1, d2, d3⟩ := declet_spec b (10 * k) (Nat.mod_eq_zero_of_dvd (Nat.dvd_mul_right_of_dvd (by decide) k))
    simp only [decodeDeclets.go, e]
    refine ⟨by simp [ih1], List.forall_mem_cons.2 ⟨⟨d1, d2⟩, ih2⟩, ?_⟩
    · rw [List.flatten_cons, valOf_append, flatten_length_three _ fun d hd => (ih2 d hd).1, ih1, d3, ih4, trailingDecode_top]
      have e2 : 2 ^ (10 * (k + 1)) = 2 ^ (10 * k) * 1024 := by rw [Nat.mul_add, Nat.pow_add]
      rw [e2, Nat.mod_mul_right_div_self, Nat.mod_mul_right_mod]
      rw [← pow1000, Nat.add_comm, Nat.mod_mod, Nat.mul_comm (1000 ^ k)]

theorem _root_.Decstr.Proofs.decodeDeclets_spec (b : Buf) (n : Nat) (h : WF b n) :
    (decodeDeclets b).length = 3 * n - 1 ∧ (∀ d ∈ decodeDeclets b, d.length = 3 ∧ AsciiDigits d) ∧
    valOf (decodeDeclets b).flatten = trailingDecode (3 * n - 1) (b.bits % 2 ^ (30 * n - 10)) := by
  rw [decodeDeclets, Buf.trailingBits_of_len h.len, show 30 * n - 10 = 10 * (3 * n - 1) from fmt_t n,
    Nat.mul_div_cancel_left _ (by decide)]
  exact go_spec b (3 * n - 1)

theorem _root_.Decstr.Proofs.decodeDeclets_flatten_length (b : Buf) (n : Nat) (h : WF b n) :
    (decodeDeclets b).flatten.length = 3 * (3 * n - 1) := by
  obtain ⟨h1, h2, -⟩ := decodeDeclets_spec b n h
  rw [flatten_length_three _ fun d hd => (h2 d hd).1, h1]

theorem _root_.Decstr.Proofs.decodeDeclets_flatten_ascii (b : Buf) (n : Nat) (h : WF b n) :
    AsciiDigits (decodeDeclets b).flatten :=
  asciiDigits_flatten fun d hd => ((decodeDeclets_spec b n h).2.1 d hd).2


end Decstr.Proofs.DecodeAux

#print axioms Decstr.Proofs.bcdOfDpd_spec
#print axioms Decstr.Proofs.bcdOfDpd_low
#print axioms Decstr.Proofs.readDpd_spec
#print axioms Decstr.Proofs.decodeDeclets_spec
