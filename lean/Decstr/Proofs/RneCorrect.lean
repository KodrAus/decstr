import Decstr.Proofs.RneBounds
import Decstr.Proofs.ToInt
import Decstr.Proofs.Bits
-- besides `ring`: with Mathlib in scope `2 ^ k : Nat` elaborates through `Monoid.npow`, which is how the statements from
-- here upwards (RneCorrectRat, Props/C13n) are stated
import Mathlib.Tactic.Ring
/-!
# Proofs.RneCorrect — the specification's binary rounding `Spec.rneRat` really is round-to-nearest-even

`Spec.rneRat B num den`, the oracle for C12/C13, is proved correct against IEEE 754-2019 §3.4/§4.3.1.  Everything is measured
in units of the smallest subnormal, where a finite pattern has a natural-number value (an order isomorphism) and distances
are compared cross-multiplied.  The answer is put in closed form, and one fact about it carries the correctness statements:
the exact value lies between the midpoints from the answer to every other pattern, on a midpoint only if the significand
rounded to is even.  Nearest, ties-to-even and monotonicity are read off this; overflow is "a pattern is reached exactly from
half a quantum below it" at the largest finite number.
-/
namespace Decstr.Proofs.Rne
open Decstr.Spec

/-! ## Value of a finite non-negative bit pattern (IEEE 754-2019 §3.4) -/

def fieldOf (B : BinFmt) (bits : Nat) : Nat := bits / 2 ^ (B.prec - 1)
def fracOf  (B : BinFmt) (bits : Nat) : Nat := bits % 2 ^ (B.prec - 1)
/-- integer significand: hidden bit for normals (field ≠ 0) -/
def mantOf  (B : BinFmt) (bits : Nat) : Nat :=
  if fieldOf B bits = 0 then fracOf B bits else 2 ^ (B.prec - 1) + fracOf B bits
/-- unbiased quantum exponent: value = `mantOf · 2^qexpOf`; subnormals (field 0) have the exponent of field 1 -/
def qexpOf  (B : BinFmt) (bits : Nat) : Int :=
  (if fieldOf B bits = 0 then 1 else (fieldOf B bits : Int)) - (2 ^ (B.ebits - 1) - 1 : Nat) - (B.prec - 1 : Nat)

-- binary32: 1.0, the smallest subnormal, the largest finite, the smallest normal; binary64: 1.0
example : mantOf binary32 0x3f800000 = 2 ^ 23 ∧ qexpOf binary32 0x3f800000 = -23 := by decide
example : mantOf binary32 0x00000001 = 1 ∧ qexpOf binary32 0x00000001 = -149 := by decide
example : mantOf binary32 0x7f7fffff = 2 ^ 24 - 1 ∧ qexpOf binary32 0x7f7fffff = 104 := by decide
example : mantOf binary32 0x00800000 = 2 ^ 23 ∧ qexpOf binary32 0x00800000 = -149 := by decide
example : mantOf binary64 0x3ff0000000000000 = 2 ^ 52 ∧ qexpOf binary64 0x3ff0000000000000 = -52 := by decide

/-- common shift: `−(emin − (prec − 1))`, minus the quantum exponent of the subnormals; `qexpOf + shiftOf ≥ 0` -/
def shiftOf (B : BinFmt) : Nat := 2 ^ (B.ebits - 1) - 2 + (B.prec - 1)

/-- `value bits · 2^s`, a natural number as soon as `qexpOf B bits + s ≥ 0` -/
def scaledAt (B : BinFmt) (s : Nat) (bits : Nat) : Nat := mantOf B bits * 2 ^ (qexpOf B bits + s).toNat

/-- `|num/den − value bits| · den · 2^s` (exact, for `qexpOf B bits + s ≥ 0`): numerator of the distance between the
    rationals `num/den` and `mantOf·2^qexpOf` over the common denominator `den·2^s`.
    The shift is a parameter only for `errAt_add`; everything else uses `err`, the instance at `shiftOf B`. -/
def errAt (B : BinFmt) (s : Nat) (num den bits : Nat) : Nat :=
  Int.natAbs (((num * 2 ^ s : Nat) : Int) - ((scaledAt B s bits * den : Nat) : Int))

/-- the distance `|num/den − value bits|` times `den · 2^shiftOf B` -/
def err (B : BinFmt) (num den bits : Nat) : Nat := errAt B (shiftOf B) num den bits

/-- value in units of the smallest subnormal: `value bits = valN bits · 2^(−shiftOf B)` -/
def valN (B : BinFmt) (bits : Nat) : Nat := mantOf B bits * 2 ^ (fieldOf B bits - 1)

theorem two_le_half (B : BinFmt) (hb : 2 ≤ B.ebits) : 2 ≤ 2 ^ (B.ebits - 1) := Nat.one_lt_two_pow (by omega)

theorem qexp_shift (B : BinFmt) (hb : 2 ≤ B.ebits) (bits : Nat) :
    qexpOf B bits + shiftOf B = ((fieldOf B bits - 1 : Nat) : Int) := by
  obtain ⟨G, hG⟩ := Nat.exists_eq_add_of_le' (two_le_half B hb)
  -- subnormals have the exponent of field 1
  have key : ∀ f : Nat, (if f = 0 then (1 : Int) else f) = ((f - 1 : Nat) : Int) + 1 := fun f => by
    cases f with
    | zero => rfl
    | succ g => rw [if_neg (Nat.succ_ne_zero g), Nat.add_sub_cancel]; rfl
  unfold qexpOf shiftOf
  rw [key, hG, Nat.add_sub_cancel, Nat.add_sub_assoc (by decide)]
  push_cast
  omega

theorem scaledAt_shift (B : BinFmt) (hb : 2 ≤ B.ebits) (bits : Nat) : scaledAt B (shiftOf B) bits = valN B bits := by
  unfold scaledAt valN
  rw [qexp_shift B hb]; rfl

/-- the comparison of distances does not depend on the shift -/
theorem errAt_add (B : BinFmt) (s k num den bits : Nat) (hs : 0 ≤ qexpOf B bits + s) :
    errAt B (s + k) num den bits = errAt B s num den bits * 2 ^ k := by
  unfold errAt scaledAt
  -- `2^k` comes out of both products, then out of the absolute value
  rw [Int.natCast_add, ← Int.add_assoc, Int.toNat_add_nat hs, Nat.pow_add, Nat.pow_add, ← Nat.mul_assoc num,
    ← Nat.mul_assoc (mantOf B bits), Nat.mul_right_comm _ (2 ^ k),
    Nat.cast_mul, Nat.cast_mul (_ * den), ← sub_mul, Int.natAbs_mul, Int.natAbs_natCast]

theorem err_eq (B : BinFmt) (hb : 2 ≤ B.ebits) (num den bits : Nat) :
    err B num den bits = Int.natAbs (((num * 2 ^ shiftOf B : Nat) : Int) - ((valN B bits * den : Nat) : Int)) := by
  unfold err errAt
  rw [scaledAt_shift B hb]

/-- `1.0` against itself and its successor -/
example : err binary32 1 1 0x3f800000 = 0 ∧ err binary32 1 1 0x3f800001 = 2 ^ (shiftOf binary32 - 23) := by
  decide +kernel
/-- the midpoint between the patterns 1 and 2 -/
example : err binary32 3 (2 ^ 150) 1 = 2 ^ 149 ∧ err binary32 3 (2 ^ 150) 2 = 2 ^ 149 ∧
    err binary32 3 (2 ^ 150) 0 = 3 * 2 ^ 149 ∧ err binary32 3 (2 ^ 150) 3 = 3 * 2 ^ 149 := by
  decide +kernel

/-! ## The value as a function of (field, fraction); the order isomorphism -/

theorem W_pos (B : BinFmt) : 0 < 2 ^ (B.prec - 1) := Nat.two_pow_pos _

theorem fieldOf_mk (B : BinFmt) (f r : Nat) (hr : r < 2 ^ (B.prec - 1)) : fieldOf B (f * 2 ^ (B.prec - 1) + r) = f :=
  (field_split f _ r hr).1

theorem fracOf_mk (B : BinFmt) (f r : Nat) (hr : r < 2 ^ (B.prec - 1)) : fracOf B (f * 2 ^ (B.prec - 1) + r) = r :=
  (field_split f _ r hr).2

theorem bits_eq (B : BinFmt) (bits : Nat) : bits = fieldOf B bits * 2 ^ (B.prec - 1) + fracOf B bits := by
  unfold fieldOf fracOf
  rw [Nat.mul_comm]; exact (Nat.div_add_mod _ _).symm

theorem fracOf_lt (B : BinFmt) (bits : Nat) : fracOf B bits < 2 ^ (B.prec - 1) := Nat.mod_lt _ (W_pos B)

/-- the value formula of binade `f`, up to and including its upper end `r = W` (the first pattern of the next binade) -/
theorem valN_mk (B : BinFmt) (f r : Nat) (hr : r ≤ 2 ^ (B.prec - 1)) :
    valN B (f * 2 ^ (B.prec - 1) + r) = (if f = 0 then r else 2 ^ (B.prec - 1) + r) * 2 ^ (f - 1) := by
  rcases Nat.lt_or_eq_of_le hr with hr | rfl
  · unfold valN mantOf
    rw [fieldOf_mk B f r hr, fracOf_mk B f r hr]
  · -- the upper end is the first pattern of binade `f + 1`
    rw [← Nat.succ_mul, ← Nat.add_zero (_ * _)]
    unfold valN mantOf
    rw [fieldOf_mk B _ 0 (W_pos B), fracOf_mk B _ 0 (W_pos B), if_neg (Nat.succ_ne_zero f), Nat.succ_sub_one, Nat.add_zero]
    cases f with
    | zero => simp
    | succ g => rw [if_neg (Nat.succ_ne_zero g), Nat.add_sub_cancel, Nat.pow_succ]; ring

theorem valN_succ (B : BinFmt) (bits : Nat) : valN B (bits + 1) = valN B bits + 2 ^ (fieldOf B bits - 1) := by
  have hb := bits_eq B bits
  have hr := fracOf_lt B bits
  generalize fieldOf B bits = f at hb ⊢
  generalize fracOf B bits = r at hb hr
  subst hb
  rw [Nat.add_assoc, valN_mk B f (r + 1) hr, valN_mk B f r (Nat.le_of_lt hr)]
  split <;> ring

theorem valN_lt_succ (B : BinFmt) (bits : Nat) : valN B bits < valN B (bits + 1) := by
  rw [valN_succ]
  exact Nat.lt_add_of_pos_right (Nat.two_pow_pos _)

theorem val_strictMono (B : BinFmt) {b1 b2 : Nat} (h : b1 < b2) : valN B b1 < valN B b2 :=
  strictMono_nat_of_lt_succ (valN_lt_succ B) h

theorem val_mono (B : BinFmt) {b1 b2 : Nat} (h : b1 ≤ b2) : valN B b1 ≤ valN B b2 :=
  (strictMono_nat_of_lt_succ (valN_lt_succ B)).monotone h

theorem val_lt_iff (B : BinFmt) {b1 b2 : Nat} : valN B b1 < valN B b2 ↔ b1 < b2 :=
  (strictMono_nat_of_lt_succ (valN_lt_succ B)).lt_iff_lt

/-- the pattern `fld·W + m` that `rneRat` assembles has the value `m · 2^fld` quanta, the carries (`m = W` in the subnormal
    binade, `m = 2W` in a normal one) included -/
theorem valN_assemble (B : BinFmt) (fld m : Nat)
    (h : (fld = 0 ∧ m ≤ 2 ^ (B.prec - 1)) ∨ (2 ^ (B.prec - 1) ≤ m ∧ m ≤ 2 * 2 ^ (B.prec - 1))) :
    valN B (fld * 2 ^ (B.prec - 1) + m) = m * 2 ^ fld := by
  rcases h with ⟨rfl, hm⟩ | ⟨h1, h2⟩
  · rw [valN_mk B 0 m hm]; simp
  · obtain ⟨r, rfl⟩ := Nat.exists_eq_add_of_le h1
    rw [← Nat.add_assoc, ← Nat.succ_mul, valN_mk B (fld + 1) r (by omega), if_neg (Nat.succ_ne_zero _), Nat.add_sub_cancel]

/-! ## A closed form of `rneRat` in units of the smallest subnormal -/

/-- exponent of the smallest normal, as `rneRat` computes it -/
def eminOf (B : BinFmt) : Int := 1 - (2 ^ (B.ebits - 1) - 1)

/-- the binade `rneRat` rounds in: 0 for the subnormal and the first normal binade (`e2 ≤ emin`), else `e2 − emin` -/
def fldOf (B : BinFmt) (n d : Nat) : Nat := (max (e2Of n d) (eminOf B) - eminOf B).toNat

theorem eminOf_eq (B : BinFmt) :
    eminOf B = 2 - ((2 ^ (B.ebits - 1) : Nat) : Int) := by
  unfold eminOf; push_cast; omega

theorem shiftOf_eq (B : BinFmt) (hb : 2 ≤ B.ebits) : (shiftOf B : Int) = ((B.prec - 1 : Nat) : Int) - eminOf B := by
  have ht := two_le_half B hb
  unfold shiftOf
  rw [eminOf_eq]
  generalize 2 ^ (B.ebits - 1) = t at ht ⊢
  omega

theorem fldOf_eq (B : BinFmt) (n d : Nat) : (fldOf B n d : Int) = max (e2Of n d) (eminOf B) - eminOf B :=
  Int.toNat_of_nonneg (Int.sub_nonneg.mpr (Int.le_max_right _ _))

/-- the integer `rneRat` rounds to -/
def mOf (B : BinFmt) (n d : Nat) : Nat := rnd (n * 2 ^ shiftOf B) (d * 2 ^ fldOf B n d)

/-- the pattern `rneRat` assembles, before the overflow test -/
def bitsOf (B : BinFmt) (n d : Nat) : Nat := fldOf B n d * 2 ^ (B.prec - 1) + mOf B n d

theorem rneRat_closed (B : BinFmt) (hp : 1 ≤ B.prec) (hb : 2 ≤ B.ebits) (n d : Nat) :
    rneRat B n d = if bitsOf B n d ≥ B.infBits then none else some (bitsOf B n d) := by
  unfold bitsOf mOf
  rw [rneRat_eq]
  extract_lets emin e q
  -- the binade `e − emin` is `fldOf` as it is defined, and `q = e − (prec − 1) = fldOf − shiftOf`: the scaling is the one of
  -- the closed form
  show rneStep B (fldOf B n d) _ _ = _
  rw [rneStep, scale_invariant rnd (fun a b s => rnd_scale a b _ (Nat.two_pow_pos s)) n d
    (x' := shiftOf B) (y' := fldOf B n d) (by
      rw [Int.toNat_sub_toNat_neg, shiftOf_eq B hb, fldOf_eq]
      show max (e2Of n d) (eminOf B) - ((B.prec : Int) - 1) = _
      omega)]

/-- the binade as a Galois connection: `fldOf ≤ f` exactly when the value is below `2W·2^f` quanta -/
theorem fldOf_le_iff (B : BinFmt) (hb : 2 ≤ B.ebits) (n d : Nat) (hn : 0 < n) (hd : 0 < d) (f : Nat) :
    fldOf B n d ≤ f ↔ n * 2 ^ shiftOf B < 2 * 2 ^ (B.prec - 1) * (d * 2 ^ f) := by
  -- `max e2 emin − emin ≤ f` exactly when `e2 < emin + f + 1`; then `e2Of_lt_iff` and a change of units
  rw [← Int.ofNat_le, fldOf_eq, sub_le_iff_le_add, max_le_iff,
    and_iff_left (Int.le_add_of_nonneg_left (Int.natCast_nonneg f)), ← Int.lt_add_one_iff, Int.add_comm (f : Int),
    e2Of_lt_iff n d hn hd, ltPow_iff (shiftOf B) (B.prec - 1 + 1 + f) (by rw [shiftOf_eq B hb]; omega),
    Nat.pow_add, Nat.pow_succ, Nat.mul_left_comm, Nat.mul_comm _ 2]

/-- where `num·2^shift / (den·2^fld)` lies: below `W = 2^(prec−1)` in the subnormal binade, in `[W, 2W)` otherwise -/
theorem binade (B : BinFmt) (hb : 2 ≤ B.ebits) (n d : Nat) (hn : 0 < n) (hd : 0 < d) :
    (fldOf B n d = 0 ∧ n * 2 ^ shiftOf B < 2 ^ (B.prec - 1) * (d * 2 ^ fldOf B n d)) ∨
    (2 ^ (B.prec - 1) * (d * 2 ^ fldOf B n d) ≤ n * 2 ^ shiftOf B ∧
      n * 2 ^ shiftOf B < 2 * 2 ^ (B.prec - 1) * (d * 2 ^ fldOf B n d)) := by
  have hup := (fldOf_le_iff B hb n d hn hd (fldOf B n d)).mp (Nat.le_refl _)
  by_cases h : n * 2 ^ shiftOf B < 2 ^ (B.prec - 1) * (d * 2 ^ fldOf B n d)
  · cases hf : fldOf B n d with
    | zero => exact Or.inl ⟨rfl, hf ▸ h⟩
    | succ g =>
      -- below the bottom of binade `g + 1` is below the top of binade `g`: `W·(d·2^(g+1)) = 2W·(d·2^g)`
      rw [hf, Nat.pow_succ, ← Nat.mul_assoc d, ← Nat.mul_assoc, Nat.mul_comm _ 2, ← Nat.mul_assoc] at h
      have := (fldOf_le_iff B hb n d hn hd g).mpr h
      omega
  · exact Or.inr ⟨Nat.le_of_not_lt h, hup⟩

theorem rneRat_some_iff (B : BinFmt) (hp : 1 ≤ B.prec) (hb : 2 ≤ B.ebits) (n d bits : Nat) :
    rneRat B n d = some bits ↔ bitsOf B n d = bits ∧ bits < B.infBits := by
  rw [rneRat_closed B hp hb, Option.ite_none_left_eq_some, Option.some.injEq]
  exact ⟨fun ⟨h1, h2⟩ => ⟨h2, by omega⟩, fun ⟨h1, h2⟩ => ⟨by omega, h1⟩⟩

theorem rneRat_none_iff (B : BinFmt) (hp : 1 ≤ B.prec) (hb : 2 ≤ B.ebits) (n d : Nat) :
    rneRat B n d = none ↔ B.infBits ≤ bitsOf B n d := by
  rw [rneRat_closed B hp hb]
  split <;> simp [*]

/-- What the correctness proofs know of `(fldOf, mOf)`.  Units of the smallest subnormal: the exact value is
    `n·2^shift / d`, the quantum of the binade rounded in is `2^fld`, the answer's value `mOf·2^fld`. -/
structure Rounded (B : BinFmt) (n d : Nat) : Prop where
  /-- the subnormal binade (`mOf ≤ W`: the carry into the first normal included), or a normal one (`W ≤ mOf ≤ 2W`: the
      carry into the next binade included; the value is at least `W` quanta) -/
  range : (fldOf B n d = 0 ∧ mOf B n d ≤ 2 ^ (B.prec - 1)) ∨
    (2 ^ (B.prec - 1) ≤ mOf B n d ∧ mOf B n d ≤ 2 * 2 ^ (B.prec - 1) ∧
      2 ^ (B.prec - 1) * 2 ^ fldOf B n d * d ≤ n * 2 ^ shiftOf B)
  /-- the answer is at most half a quantum above the value … -/
  le_above : 2 * (mOf B n d * 2 ^ fldOf B n d * d) ≤ 2 * (n * 2 ^ shiftOf B) + 2 ^ fldOf B n d * d
  /-- … and at most half a quantum below it -/
  le_below : 2 * (n * 2 ^ shiftOf B) ≤ 2 * (mOf B n d * 2 ^ fldOf B n d * d) + 2 ^ fldOf B n d * d
  even_above : 2 * (mOf B n d * 2 ^ fldOf B n d * d) = 2 * (n * 2 ^ shiftOf B) + 2 ^ fldOf B n d * d → mOf B n d % 2 = 0
  even_below : 2 * (n * 2 ^ shiftOf B) = 2 * (mOf B n d * 2 ^ fldOf B n d * d) + 2 ^ fldOf B n d * d → mOf B n d % 2 = 0

theorem rounded (B : BinFmt) (hb : 2 ≤ B.ebits) (n d : Nat) (hn : 0 < n) (hd : 0 < d) : Rounded B n d := by
  suffices h : _ ∧ _ ∧ _ ∧ _ ∧ _ from ⟨h.1, h.2.1, h.2.2.1, h.2.2.2.1, h.2.2.2.2⟩
  have hD := Nat.mul_pos hd (Nat.two_pow_pos (fldOf B n d))
  simp only [Nat.mul_assoc _ (2 ^ _) d, Nat.mul_comm (2 ^ _) d]
  unfold mOf
  refine ⟨?_, rnd_spec _ _ hD⟩
  have hq := rnd_bounds (n * 2 ^ shiftOf B) (d * 2 ^ fldOf B n d)
  rcases binade B hb n d hn hd with ⟨h0, h1⟩ | ⟨h1, h2⟩
  · exact Or.inl ⟨h0, Nat.le_trans hq.2 (Nat.div_lt_of_lt_mul (Nat.mul_comm (2 ^ (B.prec - 1)) _ ▸ h1))⟩
  · exact Or.inr ⟨Nat.le_trans ((Nat.le_div_iff_mul_le hD).mpr h1) hq.1,
      Nat.le_trans hq.2 (Nat.div_lt_of_lt_mul (Nat.mul_comm (2 * 2 ^ (B.prec - 1)) _ ▸ h2)), h1⟩

/-! ## The answer and its neighbours: every other pattern is at least a quantum away -/

theorem val_bitsOf {B : BinFmt} {n d : Nat} (R : Rounded B n d) :
    valN B (bitsOf B n d) = mOf B n d * 2 ^ fldOf B n d :=
  valN_assemble B _ _ (R.range.imp_right fun h => ⟨h.1, h.2.1⟩)

/-- below a pattern `fld·W + m` of binade `fld` (subnormal, or `W < m`: the hidden bit and a non-zero fraction) every value
    is at least one quantum `2^fld` away -/
theorem gap (B : BinFmt) {fld m b' : Nat} (h : fld = 0 ∨ 2 ^ (B.prec - 1) < m) (hb' : b' < fld * 2 ^ (B.prec - 1) + m) :
    valN B b' + 2 ^ fld ≤ valN B (fld * 2 ^ (B.prec - 1) + m) := by
  obtain ⟨k, rfl⟩ : ∃ k, m = k + 1 := Nat.exists_eq_succ_of_ne_zero (by
    rcases h with rfl | h
    · omega
    · exact Nat.ne_of_gt (Nat.zero_lt_of_lt h))
  rw [← Nat.add_assoc, valN_succ]
  refine Nat.add_le_add (val_mono B (Nat.le_of_lt_succ hb')) (Nat.pow_le_pow_right (by decide) ?_)
  rcases h with rfl | h
  · exact Nat.zero_le _
  · -- the hidden bit: `(fld + 1)·W ≤ fld·W + k`
    exact Nat.le_sub_one_of_lt ((Nat.le_div_iff_mul_le (W_pos B)).mpr (by rw [Nat.succ_mul]; omega))

theorem up_neighbour {B : BinFmt} {n d : Nat} (R : Rounded B n d) {b' : Nat} (h : bitsOf B n d < b') :
    mOf B n d * 2 ^ fldOf B n d + 2 ^ fldOf B n d ≤ valN B b' := by
  rw [← val_bitsOf R]
  refine Nat.le_trans (gap B (m := mOf B n d + 1) ?_ (Nat.lt_succ_self _)) (val_mono B h)
  rcases R.range with ⟨h0, -⟩ | ⟨hWm, -⟩
  · exact Or.inl h0
  · exact Or.inr (Nat.lt_succ_of_le hWm)

/-- every pattern below the answer is at least one quantum below it, except when the answer is the bottom of a normal
    binade (`m = W`): then the quantum below is half as large, but the exact value is not below the answer -/
theorem down_neighbour {B : BinFmt} {n d : Nat} (R : Rounded B n d) {b' : Nat} (h : b' < bitsOf B n d) :
    valN B b' + 2 ^ fldOf B n d ≤ mOf B n d * 2 ^ fldOf B n d ∨
    (valN B b' < mOf B n d * 2 ^ fldOf B n d ∧ mOf B n d * 2 ^ fldOf B n d * d ≤ n * 2 ^ shiftOf B) := by
  have hv := val_bitsOf R
  rcases R.range with ⟨h0, -⟩ | ⟨hWm, -, hlo⟩
  · exact Or.inl (hv ▸ gap B (Or.inl h0) h)
  · rcases Nat.lt_or_eq_of_le hWm with hlt | hbot
    · exact Or.inl (hv ▸ gap B (Or.inr hlt) h)
    · exact Or.inr ⟨hv ▸ val_strictMono B h, hbot ▸ hlo⟩

/-! ## The cell of the answer: nearest, ties to even -/

/-- which of two patterns `x < y` is nearer is decided by the side of their midpoint the exact value lies on -/
theorem err_le_iff_mid (B : BinFmt) (hb : 2 ≤ B.ebits) (n d : Nat) (hd : 0 < d) {x y : Nat} (h : x < y) :
    (err B n d x ≤ err B n d y ↔ 2 * (n * 2 ^ shiftOf B) ≤ (valN B x + valN B y) * d) ∧
    (err B n d y ≤ err B n d x ↔ (valN B x + valN B y) * d ≤ 2 * (n * 2 ^ shiftOf B)) := by
  have := Nat.mul_lt_mul_of_pos_right (val_strictMono B h) hd
  rw [err_eq B hb, err_eq B hb, Nat.add_mul]
  generalize valN B x * d = X at *
  generalize valN B y * d = Y at *
  omega

/-- the arithmetic of the two cell lemmas, over variables: `N/d` the exact value, `v` the value rounded to, `u` its quantum,
    `V` the value of another pattern; on a midpoint the rounding is a tie -/
theorem mid_above {N d v u V : Nat} (h1 : 2 * N ≤ 2 * (v * d) + u * d) (hv : v + u ≤ V) :
    2 * N ≤ (v + V) * d ∧ (2 * N = (v + V) * d → 2 * N = 2 * (v * d) + u * d) := by
  -- `2(v·d) + u·d = v·d + (v + u)·d ≤ v·d + V·d`
  have h2 : 2 * (v * d) + u * d ≤ (v + V) * d := by
    rw [Nat.two_mul, Nat.add_assoc, ← Nat.add_mul, ← Nat.add_mul]
    exact Nat.mul_le_mul_right d (Nat.add_le_add_left hv v)
  exact ⟨Nat.le_trans h1 h2, fun he => Nat.le_antisymm h1 (he ▸ h2)⟩

/-- the second alternative: `v` is the bottom of a normal binade (`down_neighbour`) -/
theorem mid_below {N d v u V : Nat} (hd : 0 < d) (h1 : 2 * (v * d) ≤ 2 * N + u * d)
    (hv : V + u ≤ v ∨ (V < v ∧ v * d ≤ N)) :
    (V + v) * d ≤ 2 * N ∧ ((V + v) * d = 2 * N → 2 * (v * d) = 2 * N + u * d) := by
  rcases hv with hv | ⟨hv, hle⟩
  · -- `(V + v)·d + u·d = (V + u + v)·d ≤ 2(v·d) ≤ 2N + u·d`
    have h2 : (V + v) * d + u * d ≤ 2 * (v * d) := by
      rw [← Nat.add_mul, Nat.add_right_comm, Nat.two_mul, ← Nat.add_mul]
      exact Nat.mul_le_mul_right d (Nat.add_le_add_right hv v)
    exact ⟨Nat.le_of_add_le_add_right (Nat.le_trans h2 h1), fun he => Nat.le_antisymm h1 (he ▸ h2)⟩
  · have hv := Nat.mul_lt_mul_of_pos_right hv hd
    rw [Nat.add_mul]
    omega

/-- the exact value is not above the midpoint between the answer and any larger pattern; a tie needs an even `mOf` -/
theorem cell_above {B : BinFmt} {n d : Nat} (R : Rounded B n d) {b' : Nat} (h : bitsOf B n d < b') :
    2 * (n * 2 ^ shiftOf B) ≤ (valN B (bitsOf B n d) + valN B b') * d ∧
    (2 * (n * 2 ^ shiftOf B) = (valN B (bitsOf B n d) + valN B b') * d → mOf B n d % 2 = 0) := by
  rw [val_bitsOf R]
  exact (mid_above R.le_below (up_neighbour R h)).imp_right fun h he => R.even_below (h he)

/-- … nor below the midpoint between any smaller pattern and the answer -/
theorem cell_below {B : BinFmt} {n d : Nat} (R : Rounded B n d) (hd : 0 < d) {b' : Nat} (h : b' < bitsOf B n d) :
    (valN B b' + valN B (bitsOf B n d)) * d ≤ 2 * (n * 2 ^ shiftOf B) ∧
    ((valN B b' + valN B (bitsOf B n d)) * d = 2 * (n * 2 ^ shiftOf B) → mOf B n d % 2 = 0) := by
  rw [val_bitsOf R]
  exact (mid_below hd R.le_above (down_neighbour R h)).imp_right fun h he => R.even_above (h he)

theorem bitsOf_even (B : BinFmt) (hp : 2 ≤ B.prec) (n d : Nat) (h : mOf B n d % 2 = 0) : bitsOf B n d % 2 = 0 := by
  unfold bitsOf
  rwa [← Nat.two_pow_pred_mul_two (show 0 < B.prec - 1 by omega), ← Nat.mul_assoc, Nat.mul_add_mod_self_right]

/-- the pattern assembled is nearest among *all* patterns (no overflow test yet), and a tie needs an even significand `mOf` -/
theorem nearest_bitsOf (B : BinFmt) (hb : 2 ≤ B.ebits) (n d : Nat) (hn : 0 < n) (hd : 0 < d) (b' : Nat) :
    err B n d (bitsOf B n d) ≤ err B n d b' ∧
    (b' ≠ bitsOf B n d → err B n d b' = err B n d (bitsOf B n d) → mOf B n d % 2 = 0) := by
  have R := rounded B hb n d hn hd
  rcases Nat.lt_trichotomy b' (bitsOf B n d) with hlt | rfl | hgt
  · obtain ⟨r1, r2⟩ := cell_below R hd hlt
    obtain ⟨d1, d2⟩ := err_le_iff_mid B hb n d hd hlt
    exact ⟨d2.mpr r1, fun _ he => r2 (Nat.le_antisymm r1 (d1.mp (Nat.le_of_eq he)))⟩
  · exact ⟨Nat.le_refl _, fun hne => absurd rfl hne⟩
  · obtain ⟨r1, r2⟩ := cell_above R hgt
    obtain ⟨d1, d2⟩ := err_le_iff_mid B hb n d hd hgt
    exact ⟨d1.mpr r1, fun _ he => r2 (Nat.le_antisymm r1 (d2.mp (Nat.le_of_eq he)))⟩

/-- against every pattern `b'`, finite or not; for `prec ≥ 2` an even `mOf` is an even pattern -/
theorem rneRat_nearest_all (B : BinFmt) (hp : 1 ≤ B.prec) (hb : 2 ≤ B.ebits) (num den : Nat) (hn : 0 < num)
    (hd : 0 < den) (bits : Nat) (h : rneRat B num den = some bits) (b' : Nat) :
    err B num den bits ≤ err B num den b' ∧
    (2 ≤ B.prec → b' ≠ bits → err B num den b' = err B num den bits → bits % 2 = 0) := by
  obtain ⟨rfl, -⟩ := (rneRat_some_iff B hp hb num den bits).mp h
  obtain ⟨h1, h2⟩ := nearest_bitsOf B hb num den hn hd b'
  exact ⟨h1, fun hp2 hne he => bitsOf_even B hp2 _ _ (h2 hne he)⟩

/-- the answer is a nearest finite pattern (needs `prec ≥ 1` only); `rneRat_nearest_all` is the form to use -/
theorem rneRat_nearest (B : BinFmt) (hp : 1 ≤ B.prec) (hb : 2 ≤ B.ebits) (num den : Nat) (hn : 0 < num)
    (hd : 0 < den) (bits : Nat) (h : rneRat B num den = some bits) (b' : Nat) (_hb' : b' < B.infBits) :
    err B num den bits ≤ err B num den b' :=
  (rneRat_nearest_all B hp hb num den hn hd bits h b').1

/-- ties go to even (needs `prec ≥ 2`: with `prec = 1` there is no trailing significand bit, see the example below) -/
theorem rneRat_tie_even (B : BinFmt) (hp : 2 ≤ B.prec) (hb : 2 ≤ B.ebits) (num den : Nat) (hn : 0 < num)
    (hd : 0 < den) (bits : Nat) (h : rneRat B num den = some bits) (b' : Nat) (_hb' : b' < B.infBits)
    (hne : b' ≠ bits) (he : err B num den b' = err B num den bits) : bits % 2 = 0 :=
  (rneRat_nearest_all B (by omega) hb num den hn hd bits h b').2 hp hne he

/-- `prec = 1` (no trailing significand field): `3 = (2 + 4)/2` rounds to the pattern 5 (value 4, significand `1·2^2`,
    "even" in the sense of the rounding step) although pattern 4 (value 2) is equally near: the parity of the *pattern*
    is then the parity of the exponent field, so statement 3 needs `2 ≤ prec` -/
example : rneRat ⟨1, 3⟩ 3 1 = some 5 ∧ (4 : Nat) < BinFmt.infBits ⟨1, 3⟩ ∧
    err ⟨1, 3⟩ 3 1 4 = err ⟨1, 3⟩ 3 1 5 ∧ 5 % 2 ≠ 0 := by decide +kernel

/-- `1/3` in binary32 -/
example : ∀ b' < binary32.infBits, err binary32 1 3 0x3eaaaaab ≤ err binary32 1 3 b' :=
  fun b' h => rneRat_nearest binary32 (by decide) (by decide) 1 3 (by decide) (by decide) _ (by decide +kernel) b' h

/-- `2^24 + 1` is half-way between `0x4b800000` (`2^24`) and `0x4b800001` (`2^24 + 2`) -/
example : rneRat binary32 (2 ^ 24 + 1) 1 = some 0x4b800000 ∧
    err binary32 (2 ^ 24 + 1) 1 0x4b800001 = err binary32 (2 ^ 24 + 1) 1 0x4b800000 := by
  decide +kernel
example : 0x4b800000 % 2 = 0 :=
  rneRat_tie_even binary32 (by decide) (by decide) (2 ^ 24 + 1) 1 (by decide) (by decide) 0x4b800000
    (by decide +kernel) 0x4b800001 (by decide) (by decide)
    (by decide +kernel)

/-! ## Overflow: a pattern is reached exactly from half a quantum below it -/

/-- an assembled pattern `fld·W + m` (the range of `valN_assemble`) against `(F + 2)·W`, the first pattern beyond binade `F`:
    the order is lexicographic in `(fld, m)` -/
theorem pattern_ge_iff {W fld m F : Nat} (hW : 0 < W) (h : (fld = 0 ∧ m ≤ W) ∨ (W ≤ m ∧ m ≤ 2 * W)) :
    (F + 2) * W ≤ fld * W + m ↔ F < fld ∨ (fld = F ∧ 2 * W ≤ m) := by
  rw [Nat.add_mul]
  rcases Nat.lt_trichotomy fld F with h' | rfl | h'
  · have := Nat.mul_le_mul_right W (Nat.succ_le_of_lt h')
    rw [Nat.succ_mul] at this
    omega
  · simp only [Nat.add_le_add_iff_left, Nat.lt_irrefl, false_or, true_and]
  · have := Nat.mul_le_mul_right W (Nat.succ_le_of_lt h')
    rw [Nat.succ_mul] at this
    omega

/-- the answer lies beyond a normal binade `F = G + 1` (quantum `2^F`, last pattern `(F + 2)·W − 1`) exactly from `2W − 1/2`
    quanta on: the half-way point included, `2W − 1` being odd.  In units of the smallest subnormal. -/
theorem bitsOf_beyond_iff (B : BinFmt) (hb : 2 ≤ B.ebits) (n d : Nat) (hn : 0 < n) (hd : 0 < d) (G : Nat) :
    (G + 1 + 2) * 2 ^ (B.prec - 1) ≤ bitsOf B n d ↔
      2 * (2 * 2 ^ (B.prec - 1) * (d * 2 ^ (G + 1))) ≤ 2 * (n * 2 ^ shiftOf B) + d * 2 ^ (G + 1) := by
  unfold bitsOf
  rw [pattern_ge_iff (W_pos B) ((rounded B hb n d hn hd).range.imp_right fun h => ⟨h.1, h.2.1⟩)]
  have hW2 := Nat.mul_pos Nat.two_pos (W_pos B)
  rcases Nat.lt_trichotomy (fldOf B n d) (G + 1) with hlt | heq | hgt
  · -- a lower binade: the value is below `2W·2^G = W·2^(G+1)`
    have h1 := (fldOf_le_iff B hb n d hn hd G).mp (Nat.le_of_lt_succ hlt)
    have h4 := Nat.le_mul_of_pos_left (d * 2 ^ G) hW2
    rw [Nat.pow_succ, ← Nat.mul_assoc d, ← Nat.mul_assoc (2 * 2 ^ (B.prec - 1))]
    omega
  · -- this binade: `le_rnd_iff`
    unfold mOf
    rw [heq, ← le_rnd_iff (Nat.mul_pos hd (Nat.two_pow_pos _)) (Nat.mul_mod_right 2 _)]
    simp only [Nat.lt_irrefl, false_or, true_and]
  · -- a higher binade: the value is at least `2W·2^(G+1)`
    have h1 := mt (fldOf_le_iff B hb n d hn hd (G + 1)).mpr (Nat.not_le_of_lt hgt)
    have h4 := Nat.le_mul_of_pos_left (d * 2 ^ (G + 1)) hW2
    omega

/-- overflow exactly from half a quantum above the largest finite number on:
    `rneRat = none ↔ num/den ≥ (2^prec − 1/2)·2^(emax − prec + 1) = (2^(prec+1) − 1)·2^(emax − prec)`,
    `emax = 2^(ebits−1) − 1`, cross-multiplied -/
theorem rneRat_overflow (B : BinFmt) (hp : 1 ≤ B.prec) (hb : 2 ≤ B.ebits) (num den : Nat) (hn : 0 < num)
    (hd : 0 < den) :
    rneRat B num den = none ↔
      den * ((2 ^ (B.prec + 1) - 1) * 2 ^ (2 ^ (B.ebits - 1) - 1)) ≤ num * 2 ^ B.prec := by
  -- the top binade is `2G + 1` with `2^(ebits−1) = G + 2`, the infinity pattern `(2G + 3)·W`
  obtain ⟨G, hG⟩ := Nat.exists_eq_add_of_le' (two_le_half B hb)
  rw [rneRat_none_iff B hp hb, BinFmt.infBits, ← Nat.two_pow_pred_mul_two (Nat.lt_of_lt_of_le Nat.two_pos hb), hG,
    show (G + 2) * 2 - 1 = 2 * G + 1 + 2 by omega, bitsOf_beyond_iff B hb num den hn hd]
  have hs : shiftOf B + 1 = G + B.prec := by
    unfold shiftOf; rw [hG, Nat.add_sub_cancel, Nat.add_assoc, Nat.sub_add_cancel hp]
  -- `2·2W = 2^(prec+1)`
  have hc : (2 : Nat) * (2 * 2 ^ (B.prec - 1)) = 2 ^ (B.prec + 1) - 1 + 1 := by
    rw [Nat.sub_add_cancel Nat.one_le_two_pow, Nat.pow_succ, ← Nat.two_pow_pred_mul_two hp, Nat.mul_comm 2, Nat.mul_comm 2]
  -- the right side says `num / (den·(2^(prec+1) − 1)) ≥ 2^(emax − prec)`: the same in units of the smallest subnormal
  rw [← Nat.mul_assoc den, ← Nat.not_lt (a := num * 2 ^ B.prec), ← ltPow_iff B.prec (G + 2 - 1) rfl,
    ltPow_iff (shiftOf B + 1) (2 * G + 1) (by rw [hs]; omega), Nat.not_lt,
    Nat.mul_right_comm den, Nat.mul_comm _ (2 ^ (B.prec + 1) - 1), Nat.pow_succ _ (shiftOf B), ← Nat.mul_assoc num,
    Nat.mul_comm _ 2, ← Nat.mul_assoc 2, hc, Nat.succ_mul, Nat.add_le_add_iff_right]

/-- `(2^25 − 1)·2^103 = f32::MAX + ulp/2` -/
example : rneRat binary32 ((2 ^ 25 - 1) * 2 ^ 103) 1 = none ∧
    rneRat binary32 ((2 ^ 25 - 1) * 2 ^ 103 - 1) 1 = some 0x7f7fffff ∧
    rneRat binary32 ((2 ^ 25 - 1) * 2 ^ 104 - 1) 2 = some 0x7f7fffff := by decide +kernel
example : rneRat binary32 ((2 ^ 25 - 1) * 2 ^ 103) 1 = none :=
  (rneRat_overflow binary32 (by decide) (by decide) _ 1 (by decide) (by decide)).mpr (by decide +kernel)

/-! ## Monotonicity: two answers in the wrong order would share one midpoint as a tie, and both be even -/

/-- order on answers: `none` (overflow to infinity) is the top element; `Option`'s own order puts `none` at the bottom -/
def optLe : Option Nat → Option Nat → Prop
  | _, none => True
  | none, some _ => False
  | some x, some y => x ≤ y

/-- squeezing `P/1` between `2A/b` and `2C/d` when `A/b ≤ C/d` -/
theorem eq_mid_of_squeezed {A C b d P : Nat} (hb : 0 < b) (hd : 0 < d) (h1 : P * b ≤ 2 * A) (h2 : 2 * C ≤ P * d)
    (h : A * d ≤ C * b) : P * b = 2 * A ∧ 2 * C = P * d := by
  -- `P·b·d ≤ 2·A·d ≤ 2·C·b ≤ P·d·b`: equalities throughout
  have k : 2 * A * d ≤ 2 * C * b := by rw [Nat.mul_assoc, Nat.mul_assoc]; exact Nat.mul_le_mul_left 2 h
  have k1 := Nat.le_trans (Nat.mul_le_mul_right d h1) k
  have k2 := Nat.le_trans k (Nat.mul_le_mul_right b h2)
  exact ⟨Nat.le_antisymm h1 (Nat.le_of_mul_le_mul_right (Nat.mul_right_comm P d b ▸ k2) hd),
    Nat.le_antisymm h2 (Nat.le_of_mul_le_mul_right (Nat.mul_right_comm P b d ▸ k1) hb)⟩

theorem bitsOf_mono (B : BinFmt) (hp : 2 ≤ B.prec) (hb : 2 ≤ B.ebits) (a b c d : Nat) (ha : 0 < a) (hb0 : 0 < b)
    (hc : 0 < c) (hd : 0 < d) (h : a * d ≤ c * b) : bitsOf B a b ≤ bitsOf B c d := by
  apply Nat.le_of_not_lt
  intro hlt
  -- both values lie on the midpoint between the two answers …
  have R := rounded B hb c d hc hd
  obtain ⟨x1, x2⟩ := cell_below (rounded B hb a b ha hb0) hb0 hlt
  obtain ⟨y1, y2⟩ := cell_above R hlt
  have hAC : a * 2 ^ shiftOf B * d ≤ c * 2 ^ shiftOf B * b := by
    rw [Nat.mul_right_comm a, Nat.mul_right_comm c]; exact Nat.mul_le_mul_right _ h
  obtain ⟨e1, e2⟩ := eq_mid_of_squeezed hb0 hd x1 y1 hAC
  -- … so both answers are even, and the successor of the smaller one lies strictly between them
  have ex := bitsOf_even B hp a b (x2 e1)
  have ey := bitsOf_even B hp c d (y2 e2)
  obtain ⟨z1, -⟩ := cell_above R (b' := bitsOf B c d + 1) (Nat.lt_succ_self _)
  have hv := val_strictMono B (show bitsOf B c d + 1 < bitsOf B a b by omega)
  rw [e2] at z1
  exact absurd (Nat.le_of_mul_le_mul_right z1 hd) (Nat.not_le.mpr (Nat.add_lt_add_left hv _))

/-- the rounding is monotone (`a/b ≤ c/d` cross-multiplied), overflow on top -/
theorem rneRat_monotone (B : BinFmt) (hp : 2 ≤ B.prec) (hb : 2 ≤ B.ebits) (a b c d : Nat) (ha : 0 < a) (hb0 : 0 < b)
    (hc : 0 < c) (hd : 0 < d) (h : a * d ≤ c * b) : optLe (rneRat B a b) (rneRat B c d) := by
  have hm := bitsOf_mono B hp hb a b c d ha hb0 hc hd h
  rw [rneRat_closed B (by omega) hb, rneRat_closed B (by omega) hb]
  by_cases hy : bitsOf B c d ≥ B.infBits
  · rw [if_pos hy]; split <;> trivial
  · -- the larger value does not overflow, so neither does the smaller
    rw [if_neg hy, if_neg (show ¬ bitsOf B a b ≥ B.infBits by omega)]
    exact hm

example : optLe (rneRat binary32 1 3) (rneRat binary32 1 2) ∧ optLe (rneRat binary32 1 2) (rneRat binary32 (2 ^ 128) 1) :=
  ⟨rneRat_monotone binary32 (by decide) (by decide) 1 3 1 2 (by decide) (by decide) (by decide) (by decide) (by decide),
   rneRat_monotone binary32 (by decide) (by decide) 1 2 (2 ^ 128) 1 (by decide) (by decide) (by decide) (by decide)
     (by decide)⟩
example : rneRat binary32 1 3 = some 0x3eaaaaab ∧ rneRat binary32 1 2 = some 0x3f000000 ∧
    rneRat binary32 (2 ^ 128) 1 = none := by decide +kernel

/-- the numerator and denominator `rneDec` hands to `rneRat` -/
def decNum (c : Nat) (e : Int) : Nat := if e ≥ 0 then c * 10 ^ e.toNat else c
def decDen (e : Int) : Nat := if e ≥ 0 then 1 else 10 ^ (-e).toNat

/-- the `if`s are not needed: one of the two powers is `10^0` -/
theorem decNum_eq (c : Nat) (e : Int) : decNum c e = c * 10 ^ e.toNat := by
  unfold decNum
  split
  · rfl
  · rw [Int.toNat_eq_zero.mpr (by omega), Nat.pow_zero, Nat.mul_one]

theorem decDen_eq (e : Int) : decDen e = 10 ^ (-e).toNat := by
  unfold decDen
  split
  · rw [Int.toNat_eq_zero.mpr (by omega), Nat.pow_zero]
  · rfl

theorem rneDec_eq (B : BinFmt) (c : Nat) (e : Int) : rneDec B c e = rneRat B (decNum c e) (decDen e) := by
  rw [decNum_eq, decDen_eq]; exact rneDec_eq_scaled B c e

theorem decNum_pos (c : Nat) (e : Int) (hc : 0 < c) : 0 < decNum c e :=
  decNum_eq c e ▸ Nat.mul_pos hc (Nat.pow_pos (by decide))

theorem decDen_pos (e : Int) : 0 < decDen e := decDen_eq e ▸ Nat.pow_pos (by decide)

/-- `decNum c e / decDen e = c·10^e`, cross-multiplied -/
theorem dec_value (c : Nat) (e : Int) : decNum c e * 10 ^ (-e).toNat = c * 10 ^ e.toNat * decDen e := by
  rw [decNum_eq, decDen_eq]

/-- `rneDec B c e` is a finite pattern nearest to `c·10^e`, ties to even -/
theorem rneDec_nearest (B : BinFmt) (hp : 2 ≤ B.prec) (hb : 2 ≤ B.ebits) (c : Nat) (hc : 0 < c) (e : Int)
    (bits : Nat) (h : rneDec B c e = some bits) :
    bits < B.infBits ∧
    (∀ b', b' < B.infBits → err B (decNum c e) (decDen e) bits ≤ err B (decNum c e) (decDen e) b') ∧
    (∀ b', b' < B.infBits → b' ≠ bits →
      err B (decNum c e) (decDen e) b' = err B (decNum c e) (decDen e) bits → bits % 2 = 0) := by
  rw [rneDec_eq] at h
  exact ⟨rneRat_lt h,
    fun b' hb' => rneRat_nearest B (by omega) hb _ _ (decNum_pos c e hc) (decDen_pos e) bits h b' hb',
    fun b' hb' => rneRat_tie_even B hp hb _ _ (decNum_pos c e hc) (decDen_pos e) bits h b' hb'⟩

/-- `rneDec B c e` overflows exactly when `c·10^e ≥ (2^prec − 1/2)·2^(emax − prec + 1)` -/
theorem rneDec_overflow (B : BinFmt) (hp : 1 ≤ B.prec) (hb : 2 ≤ B.ebits) (c : Nat) (hc : 0 < c) (e : Int) :
    rneDec B c e = none ↔
      decDen e * ((2 ^ (B.prec + 1) - 1) * 2 ^ (2 ^ (B.ebits - 1) - 1)) ≤ decNum c e * 2 ^ B.prec := by
  rw [rneDec_eq]
  exact rneRat_overflow B hp hb _ _ (decNum_pos c e hc) (decDen_pos e)

/-- monotone in `c·10^e` (cross-multiplied) -/
theorem rneDec_monotone (B : BinFmt) (hp : 2 ≤ B.prec) (hb : 2 ≤ B.ebits) (c c' : Nat) (hc : 0 < c) (hc' : 0 < c')
    (e e' : Int) (h : decNum c e * decDen e' ≤ decNum c' e' * decDen e) :
    optLe (rneDec B c e) (rneDec B c' e') := by
  rw [rneDec_eq, rneDec_eq]
  exact rneRat_monotone B hp hb _ _ _ _ (decNum_pos c e hc) (decDen_pos e) (decNum_pos c' e' hc') (decDen_pos e') h

/-! ## The shortcuts of `Spec.rneDecSafe` -/

/-- values of at most half the smallest subnormal round to zero (the midpoint included: 0 is even) -/
theorem rneRat_zero (B : BinFmt) (hp : 1 ≤ B.prec) (hb : 2 ≤ B.ebits) (n d : Nat) (hn : 0 < n)
    (h : n * 2 ^ (shiftOf B + 1) ≤ d) : rneRat B n d = some 0 := by
  have hN := Nat.mul_pos hn (Nat.two_pow_pos (shiftOf B))
  rw [Nat.pow_succ, ← Nat.mul_assoc] at h
  have hlt := Nat.lt_of_lt_of_le ((Nat.lt_mul_iff_one_lt_right hN).mpr (by decide)) h
  have hd := Nat.zero_lt_of_lt hlt
  rw [rneRat_some_iff B hp hb]
  refine ⟨?_, infBits_pos B (by omega)⟩
  -- the subnormal binade (`fldOf_le_iff`), and there at most half a quantum (`rnd_eq_zero`)
  have hf : fldOf B n d = 0 := Nat.le_zero.mp ((fldOf_le_iff B hb n d hn hd 0).mpr (by
    rw [Nat.pow_zero, Nat.mul_one]
    exact Nat.lt_of_lt_of_le hlt (Nat.le_mul_of_pos_left d (Nat.mul_pos Nat.two_pos (W_pos B)))))
  unfold bitsOf mOf
  rw [hf, Nat.pow_zero, Nat.mul_one, rnd_eq_zero (Nat.mul_comm 2 _ ▸ h) hN, Nat.zero_mul]

/-- values of at least `2^(emax+1)` overflow -/
theorem rneRat_huge (B : BinFmt) (hp : 1 ≤ B.prec) (hb : 2 ≤ B.ebits) (n d : Nat) (hn : 0 < n) (hd : 0 < d)
    (h : d * 2 ^ (2 ^ (B.ebits - 1)) ≤ n) : rneRat B n d = none := by
  rw [rneRat_overflow B hp hb n d hn hd]
  have ht := two_le_half B hb
  generalize 2 ^ (B.ebits - 1) = t at *
  -- `d·(2^(prec+1) − 1)·2^(t−1) ≤ d·2^(prec+1)·2^(t−1) = d·2^t·2^prec ≤ n·2^prec`
  refine Nat.le_trans (Nat.mul_le_mul_left d (Nat.mul_le_mul_right _ (Nat.sub_le _ 1))) ?_
  rw [← Nat.pow_add, show B.prec + 1 + (t - 1) = t + B.prec by omega, Nat.pow_add, ← Nat.mul_assoc]
  exact Nat.mul_le_mul_right _ h

/-- formats whose range fits the cut-offs of `rneDecSafe`: `2^(emax+1) ≤ 10^401` and
    `10^-401 ≤` half the smallest subnormal -/
def SafeFmt (B : BinFmt) : Prop :=
  1 ≤ B.prec ∧ 2 ≤ B.ebits ∧ 2 ^ (2 ^ (B.ebits - 1)) ≤ 10 ^ 401 ∧ 2 ^ (shiftOf B + 1) ≤ 10 ^ 401

set_option exponentiation.threshold 2000 in
theorem safe32 : SafeFmt binary32 := by
  refine ⟨by decide, by decide, ?_, ?_⟩ <;> decide +kernel

set_option exponentiation.threshold 2000 in
theorem safe64 : SafeFmt binary64 := by
  refine ⟨by decide, by decide, ?_, ?_⟩ <;> decide +kernel

/-- the two spellings of "binary32 or binary64": ToFloat, C12, C13 carry the disjunction, this file `SafeFmt` -/
theorem safe_of_std {B : BinFmt} (hB : B = binary32 ∨ B = binary64) : SafeFmt B := by
  rcases hB with rfl | rfl
  · exact safe32
  · exact safe64

set_option exponentiation.threshold 500 in
/-- whenever `rneDecSafe` takes a shortcut (exponent above 400: overflow; value below `10^-400`: zero) it answers what
    `rneDec` would -/
theorem rneDecSafe_eq_rneDec (B : BinFmt) (hB : SafeFmt B) (c : Nat) (hc : 0 < c) (e : Int) :
    rneDecSafe B c e = rneDec B c e := by
  have k0 : ¬ c = 0 := by omega
  have k1 : e > 400 → 401 ≤ e.toNat ∧ e ≥ 0 := fun h => by omega
  have k2 : e + (digits10 c : Int) < -400 → digits10 c + 401 ≤ (-e).toNat ∧ ¬ e ≥ 0 := fun h => by omega
  obtain ⟨hp, hb, hbig, hsmall⟩ := hB
  unfold rneDecSafe
  rw [if_neg k0]
  by_cases h1 : e > 400
  · rw [if_pos h1]
    unfold rneDec
    rw [if_pos (k1 h1).2]
    symm
    apply rneRat_huge B hp hb _ _ (Nat.mul_pos hc (Nat.pow_pos (by decide))) (by decide)
    rw [Nat.one_mul]
    exact Nat.le_trans hbig (Nat.le_trans (Nat.pow_le_pow_right (by decide) (k1 h1).1) (Nat.le_mul_of_pos_left _ hc))
  · rw [if_neg h1]
    by_cases h2 : e + (digits10 c : Int) < -400
    · rw [if_pos h2]
      unfold rneDec
      rw [if_neg (k2 h2).2]
      symm
      apply rneRat_zero B hp hb _ _ hc
      -- `c·2^(shift+1) ≤ 10^digits10 c · 10^401 ≤ 10^(−e)`
      have h3 := Nat.pow_le_pow_right (n := 10) (by decide) (k2 h2).1
      rw [Nat.pow_add] at h3
      exact Nat.le_trans (Nat.mul_le_mul (Nat.le_of_lt (lt_pow_digits10 c)) hsmall) h3
    · rw [if_neg h2]

/-- the run-time oracle `rneDecSafe` (binary32, binary64) answers a finite pattern nearest to `c·10^e`, ties to
    even, and `none` exactly on overflow -/
theorem rneDecSafe_correct (B : BinFmt) (hB : SafeFmt B) (hp : 2 ≤ B.prec) (c : Nat) (hc : 0 < c) (e : Int) :
    (∀ bits, rneDecSafe B c e = some bits →
      bits < B.infBits ∧
      (∀ b', b' < B.infBits → err B (decNum c e) (decDen e) bits ≤ err B (decNum c e) (decDen e) b') ∧
      (∀ b', b' < B.infBits → b' ≠ bits →
        err B (decNum c e) (decDen e) b' = err B (decNum c e) (decDen e) bits → bits % 2 = 0)) ∧
    (rneDecSafe B c e = none ↔
      decDen e * ((2 ^ (B.prec + 1) - 1) * 2 ^ (2 ^ (B.ebits - 1) - 1)) ≤ decNum c e * 2 ^ B.prec) := by
  rw [rneDecSafe_eq_rneDec B hB c hc e]
  exact ⟨fun bits h => rneDec_nearest B hp hB.2.1 c hc e bits h, rneDec_overflow B hB.1 hB.2.1 c hc e⟩

/-- instances: `0.1` in binary32 and binary64; `1e401` and `1e-402` take the shortcuts -/
example : rneDec binary32 1 (-1) = some 0x3dcccccd ∧ rneDec binary64 1 (-1) = some 0x3fb999999999999a := by
  decide +kernel
example : ∀ b' < binary64.infBits,
    err binary64 (decNum 1 (-1)) (decDen (-1)) 0x3fb999999999999a ≤ err binary64 (decNum 1 (-1)) (decDen (-1)) b' :=
  (rneDec_nearest binary64 (by decide) (by decide) 1 (by decide) (-1) _ (by decide +kernel)).2.1
example : rneDecSafe binary64 1 401 = rneDec binary64 1 401 ∧ rneDecSafe binary64 1 (-402) = rneDec binary64 1 (-402) :=
  ⟨rneDecSafe_eq_rneDec _ safe64 1 (by decide) 401, rneDecSafe_eq_rneDec _ safe64 1 (by decide) (-402)⟩

end Decstr.Proofs.Rne

#print axioms Decstr.Proofs.Rne.val_strictMono
#print axioms Decstr.Proofs.Rne.errAt_add
#print axioms Decstr.Proofs.Rne.rneRat_closed
#print axioms Decstr.Proofs.Rne.rneRat_nearest_all
#print axioms Decstr.Proofs.Rne.rneRat_nearest
#print axioms Decstr.Proofs.Rne.rneRat_tie_even
#print axioms Decstr.Proofs.Rne.rneRat_overflow
#print axioms Decstr.Proofs.Rne.rneRat_monotone
#print axioms Decstr.Proofs.Rne.rneDec_nearest
#print axioms Decstr.Proofs.Rne.rneDec_overflow
#print axioms Decstr.Proofs.Rne.rneDec_monotone
#print axioms Decstr.Proofs.Rne.rneRat_zero
#print axioms Decstr.Proofs.Rne.rneRat_huge
#print axioms Decstr.Proofs.Rne.safe32
#print axioms Decstr.Proofs.Rne.safe64
#print axioms Decstr.Proofs.Rne.rneDecSafe_eq_rneDec
#print axioms Decstr.Proofs.Rne.rneDecSafe_correct
