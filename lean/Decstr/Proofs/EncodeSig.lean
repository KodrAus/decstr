import Decstr.Proofs.EncodeBits
import Decstr.Proofs.SpecLemmas
import Mathlib.Tactic.Ring  -- no tactic of it is used: the statements below elaborate `^` through Mathlib's `Monoid.npow`
/-!
# Proofs.EncodeSig — the trailing significand encoder, for every width

The loop of `encode_significand_trailing_digits` writes exactly `Spec.trailingEncode` of the digit string's value, and the
digit it reports as most significant is the quotient.  The loop of `encode_significand_trailing_digits_repeat` is the same
loop on a string of one digit, so `encode_max` needs no invariant of its own.
-/
namespace Decstr.Proofs
open Decstr.Model Decstr.Spec

theorem writeDpd_len (b : Buf) (dpd bit : Nat) : (writeDpd b dpd bit).len = b.len := rfl

theorem encodeDeclets_len (k : Nat) (ds : List Nat) (bit : Nat) (b : Buf) : (encodeDeclets k ds bit b).1.len = b.len := by
  induction k generalizing ds bit b with
  | zero => rfl
  | succ k ih =>
    unfold encodeDeclets
    split
    · rfl
    · simp only []; rw [ih]; exact writeDpd_len ..

theorem encodeSignificand_len (b : Buf) (ds : List Nat) : (encodeSignificand b ds).1.len = b.len :=
  encodeDeclets_len _ _ _ _

theorem encodeSignificand_eq (b : Buf) (ds : List Nat) :
    encodeSignificand b ds = ((encodeDeclets (b.trailingDigits / 3) ds 0 b).1,
      if (encodeDeclets (b.trailingDigits / 3) ds 0 b).2.isEmpty then 0 else ds.getD 0 48 - 48) := by
  unfold encodeSignificand; rfl

theorem encodeSignificand_nil (b : Buf) : encodeSignificand b [] = (b, 0) := by
  unfold encodeSignificand
  cases b.trailingDigits / 3 <;> simp [encodeDeclets]

namespace EncodeAux

theorem valOf_nil : valOf [] = 0 := rfl

theorem asciiDigits_append_right {l1 l2 : List Nat} (h : AsciiDigits (l1 ++ l2)) : AsciiDigits l2 :=
  (asciiDigits_append.1 h).2

theorem trailingEncode_zero (j : Nat) : trailingEncode j 0 = 0 := by
  induction j with
  | zero => rfl
  | succ j ih => simp [trailingEncode, dpdEncode_zero, ih]

theorem trailingEncode_succ_mod (j v : Nat) :
    trailingEncode (j + 1) (v % 1000 ^ (j + 1)) =
      dpdEncode (v % 1000) + 1024 * trailingEncode j (v / 1000 % 1000 ^ j) := by
  simp only [trailingEncode]
  rw [Nat.pow_succ', Nat.mod_mul_right_mod, Nat.mod_mul_right_div_self]

theorem encodeDeclets_bits (k : Nat) (ds : List Nat) (hds : AsciiDigits ds) (bit : Nat) (hbit : bit % 2 = 0) (b : Buf) :
    (encodeDeclets k ds bit b).1 = ⟨b.len, b.bits ||| (trailingEncode k (valOf ds % 1000 ^ k) <<< bit)⟩ := by
  induction k generalizing ds bit b with
  | zero => simp [encodeDeclets, trailingEncode]
  | succ k ih =>
    unfold encodeDeclets
    by_cases he : ds = []
    · subst he
      rw [valOf_nil, Nat.zero_mod, trailingEncode_zero, Nat.zero_shiftLeft, Nat.or_zero]
      rfl
    · simp only [List.isEmpty_eq_false_iff.2 he, Bool.false_eq_true, if_false]
      obtain ⟨x, y, z, _, _, _, _, _, hval⟩ := nextDeclet_spec ds hds he
      have hr : AsciiDigits (nextDeclet ds).2 := by rw [nextDeclet_rest]; exact hds.take _
      have hx : dpdEncode (valOf ds % 1000) < 2 ^ 10 := dpdEncode_lt _ (Nat.mod_lt _ (by decide))
      rw [ih _ hr (bit + 10) (by rw [Nat.add_mod, hbit]), nextDeclet_dpd ds hds he, hval, writeDpd_eq _ _ _ hx hbit, trailingEncode_succ_mod,
        show (1024 : Nat) = 2 ^ 10 from rfl, shiftLeft_cons hx, Nat.or_assoc]

/-- `max_digits = p − 1 = 3 · declets` -/
theorem declets_zero (n : Nat) (hn : 0 < n) : (Buf.zero (4 * n)).trailingDigits / 3 = 3 * n - 1 :=
  Nat.div_eq_of_eq_mul_right (by decide) ((Buf.trailingDigits_of_len rfl).trans (congrArg Nat.pred (fmt_p n hn)))

end EncodeAux
open EncodeAux

theorem encodeSignificand_spec (n : Nat) (hn : 0 < n) (ds : List Nat) (hds : AsciiDigits ds) (hne : ds ≠ [])
    (hlen : ds.length ≤ 9 * n - 2) :
    (encodeSignificand (Buf.zero (4 * n)) ds).1 = ⟨4 * n, trailingEncode (3 * n - 1) (valOf ds % 1000 ^ (3 * n - 1))⟩ ∧
    (encodeSignificand (Buf.zero (4 * n)) ds).2 = valOf ds / 1000 ^ (3 * n - 1) := by
  rw [encodeSignificand_eq, declets_zero n hn]
  constructor
  · rw [encodeDeclets_bits _ _ hds 0 (by decide), Nat.shiftLeft_zero]
    exact congrArg _ (Nat.zero_or _)
  · dsimp only
    rw [encodeDeclets_rest, pow1000]
    by_cases hl : ds.length ≤ 3 * (3 * n - 1)
    · rw [Nat.sub_eq_zero_of_le hl,
        Nat.div_eq_of_lt (valOf_lt_of_le hds hl)]
      rfl
    · -- exactly one digit more than the declets hold (`p = 3 · declets + 1`): it is the quotient
      have hl : ds.length = 3 * (3 * n - 1) + 1 :=
        Nat.le_antisymm (Nat.le_trans hlen (Nat.le_of_eq (fmt_p n hn))) (Nat.lt_of_not_le hl)
      rw [(valOf_split hds _ (hl ▸ Nat.le_succ _)).1, hl, Nat.add_sub_cancel_left]
      obtain ⟨d, tl, rfl⟩ := List.exists_cons_of_ne_nil hne
      exact (Nat.zero_add _).symm

theorem repeat_go_eq (d k m bit : Nat) (b : Buf) (hm : 3 * k ≤ m) :
    encodeSignificandRepeat.go d k bit b = (encodeDeclets k (List.replicate m d) bit b).1 := by
  induction k generalizing m bit b with
  | zero => rfl
  | succ k ih =>
    obtain ⟨m', rfl⟩ : ∃ m', m = m' + 3 := ⟨m - 3, by omega⟩
    have hr : List.replicate (m' + 3) d = List.replicate m' d ++ [d, d, d] := List.replicate_append_replicate.symm
    rw [encodeSignificandRepeat.go, hr, encodeDeclets_succ (by simp) (nextDeclet_append3 ..)]
    exact ih m' _ _ (by omega)

theorem repeat_go_len (d : Nat) (k bit : Nat) (b : Buf) : (encodeSignificandRepeat.go d k bit b).len = b.len := by
  rw [repeat_go_eq d k (3 * k) bit b (Nat.le_refl _)]
  exact encodeDeclets_len ..

theorem encodeSignificandRepeat_eq (b : Buf) (d m : Nat) (hm : 3 * (b.trailingDigits / 3) < m) :
    encodeSignificandRepeat b d = encodeSignificand b (List.replicate m d) := by
  rw [encodeSignificand_eq]
  refine Prod.ext (repeat_go_eq d _ m 0 b (Nat.le_of_lt hm)) ?_
  obtain ⟨j, rfl⟩ : ∃ j, m = j + 1 := ⟨m - 1, by omega⟩
  -- at least one digit is left over, and the first digit is `d`
  dsimp only
  rw [encodeDeclets_rest, List.length_replicate, List.take_replicate, Nat.min_eq_left (Nat.sub_le _ _),
    Nat.sub_add_comm (Nat.le_of_lt_succ hm)]
  rfl

end Decstr.Proofs

#print axioms Decstr.Proofs.encodeSignificand_spec
