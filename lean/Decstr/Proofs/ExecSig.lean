import Decstr.Proofs.ExecBasic
import Decstr.Proofs.EncodeSig
import Decstr.Proofs.DecodeDpd
import Decstr.Proofs.Chunks
/-!
# Proofs.ExecSig — `significand.rs`: the checked encoder/decoder of the trailing significand never reaches a panic
site and computes what the pure model computes
-/
namespace Decstr.Proofs.Exec
open Decstr.Model Decstr.Model.Exec Decstr.Proofs.Chunks

theorem asciiToBcdC_eq {c : Bool} {a : Nat} (h : 48 ≤ a) : asciiToBcdC c a = .ok (a - 48) := by
  unfold asciiToBcdC; exact subU8_ok h

/-- `bcd + b'0'` never overflows a `u8`: a BCD nibble is at most 15 -/
theorem bcdToAsciiC_eq {c : Bool} {m : Nat} (h : m ≤ 15) : bcdToAsciiC c m = .ok (m + 48) := by
  unfold bcdToAsciiC; exact addU8_ok (Nat.lt_of_le_of_lt (Nat.add_le_add_right h 48) (by decide))

theorem bcdOfAsciiC_eq {c : Bool} {a0 a1 a2 : Nat} (h0 : 48 ≤ a0) (h1 : 48 ≤ a1) (h2 : 48 ≤ a2) :
    bcdOfAsciiC c a0 a1 a2 = .ok (bcdOfAscii a0 a1 a2) := by
  unfold bcdOfAsciiC
  rw [asciiToBcdC_eq h0, bind_ok, asciiToBcdC_eq h1, bind_ok, asciiToBcdC_eq h2, bind_ok]
  rfl

/-- the `unreachable!()` arm of `encode_bcd_declet_to_dpd` is unreachable for every `u16`: the selector mask `0x888` has
    three bits, so the selector is one of their eight subsets, the arms of the `match` -/
theorem dpdOfBcdC_eq (bcd : Nat) : dpdOfBcdC bcd = .ok (dpdOfBcd bcd) := by
  unfold dpdOfBcdC
  have h1 : bcd &&& 0x800 = 0 ∨ bcd &&& 0x800 = 0x800 := and_bit_cases bcd 11
  have h2 : bcd &&& 0x080 = 0 ∨ bcd &&& 0x080 = 0x080 := and_bit_cases bcd 7
  have h3 : bcd &&& 0x008 = 0 ∨ bcd &&& 0x008 = 0x008 := and_bit_cases bcd 3
  rw [show (0x888 : Nat) = 0x800 ||| 0x080 ||| 0x008 from rfl, Nat.and_or_distrib_left, Nat.and_or_distrib_left]
  generalize bcd &&& 0x800 = a at h1 ⊢
  generalize bcd &&& 0x080 = b at h2 ⊢
  generalize bcd &&& 0x008 = c at h3 ⊢
  rcases h1 with rfl | rfl <;> rcases h2 with rfl | rfl <;> rcases h3 with rfl | rfl <;> rfl

theorem writeDpdC_eq {b : Buf} {dpd bit : Nat} (h : bit / 8 + 1 < b.len) : writeDpdC b dpd bit = .ok (writeDpd b dpd bit) := by
  unfold writeDpdC
  rw [orAtC_ok (Nat.lt_of_succ_lt h), bind_ok, orAtC_ok (b := b.orAt _ _) h]
  rfl

/-! ## the chunk reader `next_ascii_declet_rev` against the flat reader of the pure model

With the digits `S` already stored in `out`, the slow path returns the declet of the digits the stack denotes followed by
`S`, as it does for the pure chunk reader of `Model/Chunks` (`Chunks.slowLoop_spec`). -/

/-- the digits a chunk stack denotes (current chunk first, so the text order is the reverse) -/
def flat (st : List (List Nat)) : List Nat := st.reverse.flatten

/-- the reader panics on an empty current chunk (`next_ascii_declet_rev`, the `_` arm), so the stack never holds one -/
def NoEmpty (st : List (List Nat)) : Prop := ∀ c ∈ st, c ≠ []

theorem flat_cons (c : List Nat) (st : List (List Nat)) : flat (c :: st) = flat st ++ c := by
  simp [flat]
theorem flat_nil : flat [] = [] := rfl

theorem NoEmpty.tail {c : List Nat} {st : List (List Nat)} (h : NoEmpty (c :: st)) : NoEmpty st := fun x hx => h x (by simp [hx])
theorem NoEmpty.head {c : List Nat} {st : List (List Nat)} (h : NoEmpty (c :: st)) : c ≠ [] := h c (by simp)
theorem NoEmpty.cons {c : List Nat} {st : List (List Nat)} (hc : c ≠ []) (h : NoEmpty st) : NoEmpty (c :: st) := by
  intro x hx
  rcases List.mem_cons.1 hx with rfl | hx
  · exact hc
  · exact h x hx
theorem NoEmpty.nil : NoEmpty [] := fun _ h => by cases h

theorem flat_ne_nil {st : List (List Nat)} (h : NoEmpty st) (hs : st ≠ []) : flat st ≠ [] := by
  cases st with
  | nil => exact absurd rfl hs
  | cons c st =>
    rw [flat_cons]
    intro he
    exact h.head (List.append_eq_nil_iff.1 he).2

theorem flat_reverse (chunks : List (List Nat)) : flat chunks.reverse = chunks.flatten := by
  simp [flat]

theorem setOutC_eq {out out' : Declet} {i v : Nat} (h : setOut out i v = some out') : setOutC out i v = .ok out' := by
  unfold setOutC
  -- `setOut` is `none` from index 3 on, so these three are all
  match i, h with
  | 0, h | 1, h | 2, h => cases h; rfl

/-- the two live arms of the slow path's `match chunk.len()`, as `Chunks.slowLoop_one` and `Chunks.slowLoop_many` -/
theorem declSlowC_one {out out' : Declet} {oi x : Nat} {rest : List (List Nat)} (h3 : oi ≠ 3)
    (hs : setOut out oi x = some out') : declSlowC ([x] :: rest) out oi = declSlowC rest out' (oi + 1) := by
  rw [declSlowC, if_neg h3]
  simp only [List.length_singleton, List.getD_cons_zero, setOutC_eq hs]

theorem declSlowC_many {out out' : Declet} {oi x : Nat} {pre : List Nat} {rest : List (List Nat)} (h3 : oi ≠ 3)
    (hpre : pre ≠ []) (hs : setOut out oi x = some out') :
    declSlowC ((pre ++ [x]) :: rest) out oi = declSlowC (pre :: rest) out' (oi + 1) := by
  obtain ⟨p, ps, rfl⟩ := List.exists_cons_of_ne_nil hpre
  rw [declSlowC, if_neg h3]
  split
  · rename_i hl; cases hl
  · rename_i hl; rw [List.length_append] at hl; cases hl
  · rename_i n hl
    have hn : n + 1 = (p :: ps).length := Nat.succ.inj (hl.symm.trans List.length_append)
    rw [hn, List.getD_eq_getElem?_getD, List.getElem?_concat_length, List.take_left' rfl, Option.getD_some, setOutC_eq hs]

/-- `out` holds the digits `S` read so far (`out_index = S.length`, the free slots `'0'`, as in `nextDeclet S`); every
    step fills one of the `n` free slots, there being no empty chunk to skip -/
theorem declSlowC_spec {st : List (List Nat)} (S : List Nat) (n : Nat) (hne : NoEmpty st) (hn : S.length + n = 3) :
    ∃ d st', declSlowC st (nextDeclet S).1 S.length = .ok (d, st') ∧ NoEmpty st' ∧
      nextDeclet (flat st ++ S) = (d, flat st') := by
  induction n generalizing st S with
  | zero =>
    match S, hn with
    | [x, y, z], _ =>
      refine ⟨(z, y, x), st, ?_, hne, nextDeclet_append3 ..⟩
      unfold declSlowC
      cases st with
      | nil => rfl
      | cons chunk rest => rfl
  | succ k ih =>
    cases st with
    | nil =>
      rw [flat_nil, List.nil_append, declSlowC]
      exact ⟨_, [], rfl, NoEmpty.nil, Prod.ext rfl (nextDeclet_short (Nat.le_of_add_right_le hn.le))⟩
    | cons chunk rest =>
      have hS : S.length < 3 := Nat.lt_of_lt_of_eq (Nat.lt_add_of_pos_right k.succ_pos) hn
      have hk : (x : Nat) → (x :: S).length + k = 3 := fun _ => (Nat.succ_add_eq_add_succ ..).trans hn
      obtain ⟨pre, x, rfl⟩ := (List.eq_nil_or_concat chunk).resolve_left hne.head
      have ho1 := setOut_nextDeclet x hS
      rw [List.concat_eq_append, flat_cons, ← List.append_assoc, List.append_assoc _ [x], List.singleton_append]
      by_cases hpre : pre = []
      · subst hpre
        rw [List.nil_append, declSlowC_one hS.ne ho1, List.append_nil]
        exact ih (x :: S) hne.tail (hk x)
      · rw [declSlowC_many hS.ne hpre ho1, ← flat_cons]
        exact ih (x :: S) (NoEmpty.cons hpre hne.tail) (hk x)

theorem nextDecletC_spec (c : Bool) {st : List (List Nat)} (hne : NoEmpty st) (hs : st ≠ []) :
    ∃ d st', nextDecletC c st = .ok (some d, st') ∧ NoEmpty st' ∧ nextDeclet (flat st) = (d, flat st') := by
  cases st with
  | nil => exact absurd rfl hs
  | cons chunk rest =>
    rw [flat_cons]
    rcases back_cases chunk hne.head with ⟨x, rfl⟩ | ⟨x, y, rfl⟩ | ⟨x, y, z, rfl⟩ | ⟨pre, x, y, z, hpre, rfl⟩
    · obtain ⟨d, st', h1, h2⟩ := declSlowC_spec [x] 2 hne.tail rfl
      refine ⟨d, st', ?_, h2⟩
      rw [nextDecletC, if_pos (by rfl)]
      -- `erw`: `out` is `(x, 48, 48)` here and `(nextDeclet [x]).1` in `h1`
      erw [h1]
    · obtain ⟨d, st', h1, h2⟩ := declSlowC_spec [x, y] 1 hne.tail rfl
      refine ⟨d, st', ?_, h2⟩
      rw [nextDecletC, if_neg (nomatch ·), if_pos (by rfl)]
      erw [h1]
    · exact ⟨(z, y, x), rest, rfl, hne.tail, nextDeclet_append3 ..⟩
    · have hlen : (pre ++ [x, y, z]).length = pre.length + 3 := List.length_append
      have hidx : ∀ s i, i < 3 → idx s (pre ++ [x, y, z]) (pre.length + i) = .ok ([x, y, z].getD i 0) := fun s i hi => by
        rw [idx_ok (by rw [hlen]; exact Nat.add_lt_add_left hi _), List.getD_eq_getElem?_getD,
          List.getElem?_append_right (Nat.le_add_right _ _), Nat.add_sub_cancel_left, List.getD_eq_getElem?_getD]
      refine ⟨(z, y, x), pre :: rest, ?_, NoEmpty.cons hpre hne.tail, by rw [← List.append_assoc, nextDeclet_append3, flat_cons]⟩
      -- the length is none of 1, 2, 3, `pre` not being empty
      simp only [nextDecletC, hlen, Nat.reduceEqDiff, List.length_eq_zero_iff, hpre, ↓reduceIte]
      exact bind_eq_of_ok (dbg_pos (Nat.succ_ne_zero _)) <| bind_eq_of_ok (subUsize_ok (Nat.le_add_left 1 _)) <|
        bind_eq_of_ok (subUsize_ok (Nat.le_add_left 2 _)) <| bind_eq_of_ok (subUsize_ok (Nat.le_add_left 3 _)) <|
        bind_eq_of_ok (hidx _ 2 (by decide)) <| bind_eq_of_ok (hidx _ 1 (by decide)) <|
        bind_eq_of_ok (hidx _ 0 (by decide)) <| bind_eq_of_ok (req_pos (Nat.le_add_right _ _)) <| by
          rw [Nat.add_sub_cancel, List.take_left' rfl]; rfl

theorem room_succ {bit k len : Nat} (h : bit + 10 * (k + 1) + 6 ≤ 8 * len) :
    bit / 8 + 1 < len ∧ bit + 10 + 10 * k + 6 ≤ 8 * len := by omega

theorem encodeDecletsC_spec (c : Bool) {k : Nat} {st : List (List Nat)} {bit : Nat} {b : Buf} (hne : NoEmpty st)
    (hds : AsciiDigits (flat st)) (hroom : bit + 10 * k + 6 ≤ 8 * b.len) :
    ∃ st', encodeDecletsC c k st bit b = .ok ((encodeDeclets k (flat st) bit b).1, st') ∧ NoEmpty st' ∧
      flat st' = (encodeDeclets k (flat st) bit b).2 := by
  induction k generalizing st bit b with
  | zero => exact ⟨st, rfl, hne, rfl⟩
  | succ k ih =>
    by_cases hs : st = []
    · subst hs
      exact ⟨[], rfl, NoEmpty.nil, rfl⟩
    · have hfne := flat_ne_nil hne hs
      obtain ⟨d, st1, e1, e2, e3⟩ := nextDecletC_spec c hne hs
      obtain ⟨x, y, z, _, _, _, h1, _, _⟩ := nextDeclet_spec (flat st) hds hfne
      have hds1 : AsciiDigits (flat st1) := by
        rw [show flat st1 = (nextDeclet (flat st)).2 by rw [e3], nextDeclet_rest]; exact hds.take _
      -- the declet consists of ASCII digits
      obtain rfl : d = _ := (congrArg Prod.fst e3).symm.trans h1
      unfold encodeDecletsC encodeDeclets
      rw [e1, e3, List.isEmpty_eq_false_iff.2 hfne]
      simp only [bcdOfAsciiC_eq (Nat.le_add_left 48 z) (Nat.le_add_left 48 y) (Nat.le_add_left 48 x), dpdOfBcdC_eq,
        writeDpdC_eq (room_succ hroom).1, Bool.false_eq_true, ↓reduceIte]
      exact ih e2 hds1 (room_succ hroom).2

/-- site significand.rs:66 `chunks[0][0]`: the bottom chunk is not empty and starts with the first digit left over -/
theorem flat_first_of_bottom {st : List (List Nat)} (hne : NoEmpty st) (hs : st ≠ []) :
    0 < (st.getLast?.getD []).length ∧ (st.getLast?.getD []).getD 0 0 = (flat st).getD 0 0 := by
  unfold flat
  rw [← List.head?_reverse]
  obtain ⟨ch, r, hr⟩ := List.exists_cons_of_ne_nil (mt List.reverse_eq_nil_iff.1 hs)
  obtain ⟨x, xs, rfl⟩ := List.exists_cons_of_ne_nil (hne ch (List.mem_reverse.1 (hr ▸ List.mem_cons_self)))
  rw [hr]
  exact ⟨Nat.succ_pos _, rfl⟩

theorem encodeSignificandC_eq {c : Bool} {b : Buf} {n : Nat} (hn : 0 < n) (hl : b.len = 4 * n)
    {chunks : List (List Nat)} (hne : NoEmpty chunks) (hds : AsciiDigits chunks.flatten) :
    encodeSignificandC c b chunks = .ok (encodeSignificand b chunks.flatten) := by
  unfold encodeSignificandC encodeSignificand
  obtain ⟨hmod, hk, hroom⟩ := declets_geom hn hl
  rw [trailingDigitsC_eq hn hl, bind_ok, dbg_pos hmod, bind_ok]
  have hne' : NoEmpty chunks.reverse := fun x hx => hne x (List.mem_reverse.1 hx)
  obtain ⟨st', e1, e2, e3⟩ := encodeDecletsC_spec c hne' (by rw [flat_reverse]; exact hds) hroom
  rw [flat_reverse] at e1 e3
  rw [hk, e1, bind_ok]
  dsimp only
  by_cases hs : st' = []
  · subst hs
    -- nothing is left over on either side: the most significant digit is 0
    rw [flat_nil] at e3
    simp [← e3]
  · have hfl := flat_ne_nil e2 hs
    obtain ⟨g1, g2⟩ := flat_first_of_bottom e2 hs
    rw [List.isEmpty_eq_false_iff.2 hs, List.isEmpty_eq_false_iff.2 (e3 ▸ hfl)]
    simp only [Bool.false_eq_true, ↓reduceIte]
    -- what is left is a non-empty prefix of the text (`encodeDeclets_rest`): its first digit is the text's first digit
    rw [e3, encodeDeclets_rest] at hfl
    obtain ⟨a, t, hat⟩ := List.exists_cons_of_ne_nil fun h0 : chunks.flatten = [] => hfl (by rw [h0, List.take_nil])
    obtain ⟨m, hm⟩ := Nat.exists_eq_succ_of_ne_zero fun h0 : chunks.flatten.length - 3 * (b.trailingDigits / 3) = 0 =>
      hfl (by rw [h0, List.take_zero])
    rw [idx_ok g1, bind_ok, g2, e3, encodeDeclets_rest, hm, hat, List.take_succ_cons, List.getD_cons_zero,
      List.getD_cons_zero, asciiToBcdC_eq (hds a (by rw [hat]; exact List.mem_cons_self)).1, bind_ok]

theorem encodeRepeatGoC_eq {c : Bool} {d : Nat} (hd : 48 ≤ d) {k bit : Nat} {b : Buf} (hroom : bit + 10 * k + 6 ≤ 8 * b.len) :
    encodeRepeatGoC c d k bit b = .ok (encodeSignificandRepeat.go d k bit b) := by
  induction k generalizing bit b with
  | zero => rfl
  | succ k ih =>
    unfold encodeRepeatGoC encodeSignificandRepeat.go
    simp only [bcdOfAsciiC_eq hd hd hd, dpdOfBcdC_eq, writeDpdC_eq (room_succ hroom).1]
    exact ih (room_succ hroom).2

theorem encodeSignificandRepeatC_eq {c : Bool} {b : Buf} {n : Nat} (hn : 0 < n) (hl : b.len = 4 * n) {d : Nat} (hd : 48 ≤ d) :
    encodeSignificandRepeatC c b d = .ok (encodeSignificandRepeat b d) := by
  unfold encodeSignificandRepeatC encodeSignificandRepeat
  obtain ⟨hmod, hk, hroom⟩ := declets_geom hn hl
  rw [trailingDigitsC_eq hn hl, bind_ok, dbg_pos hmod, bind_ok, hk, encodeRepeatGoC_eq hd hroom, bind_ok,
    asciiToBcdC_eq hd, bind_ok]

theorem readDpdC_eq {b : Buf} {bit : Nat} (h : bit / 8 + 1 < b.len) : readDpdC b bit = .ok (readDpd b bit) := by
  unfold readDpdC readDpd
  rw [getC_ok (Nat.lt_of_succ_lt h), bind_ok, getC_ok h, bind_ok]

theorem dpd_guards_cover : ∀ y < 128, (y &&& 8 = 0 ∨ y &&& 14 = 8 ∨ y &&& 14 = 10 ∨ y &&& 14 = 12 ∨
     y &&& 110 = 14 ∨ y &&& 110 = 78 ∨ y &&& 110 = 46 ∨ y &&& 110 = 110) := by decide +kernel

/-- the `unreachable!()` arm of `decode_dpd_declet_to_bcd` is unreachable for every `u16` -/
theorem bcdOfDpdC_eq (dpd : Nat) : bcdOfDpdC dpd = .ok (bcdOfDpd dpd) := by
  unfold bcdOfDpdC
  have h := dpd_guards_cover (dpd % 2 ^ 7) (Nat.mod_lt _ (Nat.two_pow_pos 7))
  rw [← and_mod_two_pow_of_lt dpd (m := 8) (k := 7) (by decide), ← and_mod_two_pow_of_lt dpd (m := 14) (k := 7) (by decide),
    ← and_mod_two_pow_of_lt dpd (m := 110) (k := 7) (by decide)] at h
  simp only [h, ↓reduceIte]

theorem nibble_le (x : Nat) {m s : Nat} (hm : m < 2 ^ s * 16) : (x &&& m) >>> s ≤ 15 := by
  rw [Nat.shiftRight_eq_div_pow]
  exact Nat.le_of_lt_succ (Nat.div_lt_of_lt_mul (Nat.lt_of_le_of_lt Nat.and_le_right hm))

theorem asciiOfBcdC_eq {c : Bool} (bcd : Nat) : asciiOfBcdC c bcd = .ok (asciiOfBcd bcd) := by
  unfold asciiOfBcdC asciiOfBcd
  rw [bcdToAsciiC_eq (nibble_le bcd (by decide)), bind_ok, bcdToAsciiC_eq (nibble_le bcd (by decide)), bind_ok,
    bcdToAsciiC_eq Nat.and_le_right, bind_ok]

theorem decodeDecletsGoC_eq {c : Bool} {b : Buf} {k : Nat} (hk : 10 * k / 8 + 2 ≤ b.len) :
    decodeDecletsGoC c b k (10 * k) = .ok (decodeDeclets.go b k (10 * k)) := by
  induction k with
  | zero => rfl
  | succ k ih =>
    rw [Nat.mul_succ] at hk ⊢
    have hk' : 10 * k / 8 + 2 ≤ b.len := (Nat.add_le_add_right (Nat.div_le_div_right (Nat.le_add_right ..)) 2).trans hk
    unfold decodeDecletsGoC decodeDeclets.go
    simp only [↓if_neg (Nat.succ_ne_zero _), subUsize_ok (Nat.le_add_left ..), Nat.add_sub_cancel,
      readDpdC_eq hk', bcdOfDpdC_eq, asciiOfBcdC_eq, ih hk']

theorem decodeDecletsC_eq {c : Bool} {b : Buf} {n : Nat} (hn : 0 < n) (hl : b.len = 4 * n) :
    decodeDecletsC c b = .ok (decodeDeclets b) := by
  -- the trailing significand is `3n − 1` whole declets
  have e : b.trailingBits = 10 * (3 * n - 1) := by
    rw [Buf.trailingBits_of_len hl, Nat.mul_sub_one, ← Nat.mul_assoc]
  unfold decodeDecletsC decodeDeclets
  rw [trailingBitsC_eq hn hl, bind_ok, e, Nat.mul_div_cancel_left _ (by decide : 0 < 10),
    Nat.mul_add_div (by decide : 0 < 10)]
  exact decodeDecletsGoC_eq (e ▸ (expField_geom hn hl).1)

end Decstr.Proofs.Exec

#print axioms Decstr.Proofs.Exec.encodeSignificandC_eq
#print axioms Decstr.Proofs.Exec.encodeSignificandRepeatC_eq
#print axioms Decstr.Proofs.Exec.decodeDecletsC_eq
