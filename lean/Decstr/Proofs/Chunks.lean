import Decstr.Model.Chunks
import Decstr.Proofs.EncodeBits
/-!
# Proofs.Chunks — the chunk walk of `encode_significand_trailing_digits` is the concatenation model

The state `(chunks, chunk_index)` of the transcription in `Model/Chunks.lean` is read through `rem`, the digits not yet
consumed: on `rem` one call of `next_ascii_declet_rev` is `nextDeclet` and the loop is `encodeDeclets`.  The slow path and a
call on a non-empty chunk never panic (`∃` statements); from the loop upward a statement says two things at once (`sat`): a
result that is not a panic is the concatenation model's, and with no empty chunk there is no panic.
Core Lean only: plain `simp` is much dearer below Mathlib.
-/
namespace Decstr.Proofs.Chunks
open Decstr.Model

theorem slowLoop_none (fuel : Nat) (cs : List (List Nat)) (out : Declet) (oi : Nat) :
    slowLoop (fuel + 1) cs none out oi = some (out, cs, none) := rfl

theorem slowLoop_three (fuel : Nat) (cs : List (List Nat)) (c : Nat) (out : Declet) :
    slowLoop (fuel + 1) cs (some c) out 3 = some (out, cs, some c) := rfl

theorem slowLoop_empty {fuel : Nat} {cs : List (List Nat)} {c : Nat} {out : Declet} {oi : Nat}
    (h3 : oi ≠ 3) (hget : cs[c]? = some []) :
    slowLoop (fuel + 1) cs (some c) out oi = slowLoop fuel cs (checkedSub1 c) out oi :=
  -- definitionally an `if` and then a `bind` on the lookup
  (if_neg h3).trans (congrArg (Option.bind · _) hget)

theorem slowLoop_one {fuel : Nat} {cs : List (List Nat)} {c : Nat} {out out' : Declet} {oi x : Nat}
    (h3 : oi ≠ 3) (hget : cs[c]? = some [x]) (hs : setOut out oi x = some out') :
    slowLoop (fuel + 1) cs (some c) out oi = slowLoop fuel cs (checkedSub1 c) out' (oi + 1) :=
  ((if_neg h3).trans (congrArg (Option.bind · _) hget)).trans (congrArg (Option.bind · _) hs)

theorem slowLoop_many {fuel : Nat} {cs : List (List Nat)} {c : Nat} {out out' : Declet} {oi x : Nat} {pre : List Nat}
    (h3 : oi ≠ 3) (hpre : pre ≠ []) (hget : cs[c]? = some (pre ++ [x])) (hs : setOut out oi x = some out') :
    slowLoop (fuel + 1) cs (some c) out oi = slowLoop fuel (cs.set c pre) (some c) out' (oi + 1) := by
  obtain ⟨p, ps, rfl⟩ := List.exists_cons_of_ne_nil hpre
  simp [slowLoop, h3, hget, hs]

theorem next_none (cs : List (List Nat)) : nextAsciiDecletRev cs none = some (none, cs, none) := rfl

theorem next_oob (cs : List (List Nat)) (c : Nat) (hget : cs[c]? = none) : nextAsciiDecletRev cs (some c) = none :=
  congrArg (Option.bind · _) hget

/-- the `_` arm of the first `match chunk.len()` -/
theorem next_empty {cs : List (List Nat)} {c : Nat} (hget : cs[c]? = some []) : nextAsciiDecletRev cs (some c) = none :=
  congrArg (Option.bind · _) hget

theorem next_one {cs : List (List Nat)} {c x : Nat} (hget : cs[c]? = some [x]) :
    nextAsciiDecletRev cs (some c) =
      (slowLoop (cs.length + 3) cs (checkedSub1 c) (x, 48, 48) 1).map fun r => (some r.1, r.2.1, r.2.2) := by
  refine (congrArg (Option.bind · _) hget).trans ?_
  show (slowLoop (cs.length + 3) cs (checkedSub1 c) (x, 48, 48) 1).bind _ = _
  cases slowLoop (cs.length + 3) cs (checkedSub1 c) (x, 48, 48) 1 <;> rfl

theorem next_two {cs : List (List Nat)} {c x y : Nat} (hget : cs[c]? = some [x, y]) :
    nextAsciiDecletRev cs (some c) =
      (slowLoop (cs.length + 3) cs (checkedSub1 c) (y, x, 48) 2).map fun r => (some r.1, r.2.1, r.2.2) := by
  refine (congrArg (Option.bind · _) hget).trans ?_
  show (slowLoop (cs.length + 3) cs (checkedSub1 c) (y, x, 48) 2).bind _ = _
  cases slowLoop (cs.length + 3) cs (checkedSub1 c) (y, x, 48) 2 <;> rfl

theorem next_three {cs : List (List Nat)} {c x y z : Nat} (hget : cs[c]? = some [x, y, z]) :
    nextAsciiDecletRev cs (some c) = some (some (z, y, x), cs, checkedSub1 c) :=
  congrArg (Option.bind · _) hget

theorem next_many {cs : List (List Nat)} {c x y z : Nat} {pre : List Nat} (hpre : pre ≠ [])
    (hget : cs[c]? = some (pre ++ [x, y, z])) :
    nextAsciiDecletRev cs (some c) = some (some (z, y, x), cs.set c pre, some c) := by
  obtain ⟨p, ps, rfl⟩ := List.exists_cons_of_ne_nil hpre
  simp [nextAsciiDecletRev, hget]

/-- number of chunks not yet finished: `chunk_index + 1`, or `0` for `None` -/
def cnt : Option Nat → Nat
  | none => 0
  | some c => c + 1

@[simp] theorem cnt_none : cnt none = 0 := rfl
@[simp] theorem cnt_some (c : Nat) : cnt (some c) = c + 1 := rfl

@[simp] theorem cnt_checkedSub1 (c : Nat) : cnt (checkedSub1 c) = c := by
  unfold checkedSub1
  split
  · next h => rw [h]; rfl
  · next h => exact Nat.sub_add_cancel (Nat.pos_of_ne_zero h)

/-- the digits not yet read: the concatenation of the (shrunk) chunks `0 ..= chunk_index` -/
def rem (cs : List (List Nat)) (idx : Option Nat) : List Nat := (cs.take (cnt idx)).flatten

/-- The cursor is inside the array and, if `ne`, no unfinished chunk is empty.  At the top `ne` is the hypothesis "no chunk
    is empty" itself (`Inv_init`): where it fails the levels are partial correctness, where it holds they exclude panics. -/
def Inv (ne : Prop) (cs : List (List Nat)) (idx : Option Nat) : Prop :=
  cnt idx ≤ cs.length ∧ (ne → ∀ ch ∈ cs.take (cnt idx), ch ≠ [])

/-- a result satisfies `Q`; a panic is allowed only where `ne` fails -/
def sat {α : Type} (o : Option α) (ne : Prop) (Q : α → Prop) : Prop :=
  match o with
  | none => ¬ ne
  | some r => Q r

theorem sat.bind {α β : Type} {o : Option α} {f : α → Option β} {ne : Prop} {Q : α → Prop} {Q' : β → Prop}
    (h : sat o ne Q) (hf : ∀ r, Q r → sat (f r) ne Q') : sat (o.bind f) ne Q' := by
  cases o with
  | none => exact h
  | some r => exact hf r h

theorem take_cnt_some {cs : List (List Nat)} {c : Nat} {chunk : List Nat} (h : cs[c]? = some chunk) :
    cs.take (cnt (some c)) = cs.take (cnt (checkedSub1 c)) ++ [chunk] := by
  rw [cnt_some, List.take_add_one, h, cnt_checkedSub1]; rfl

theorem take_cnt_set {cs : List (List Nat)} {c : Nat} (x : List Nat) (hc : c < cs.length) :
    (cs.set c x).take (cnt (some c)) = cs.take (cnt (checkedSub1 c)) ++ [x] := by
  rw [take_cnt_some (List.getElem?_set_self hc), cnt_checkedSub1, List.take_set_of_le (Nat.le_refl c)]

theorem rem_none (cs : List (List Nat)) : rem cs none = [] := rfl

theorem rem_some {cs : List (List Nat)} {c : Nat} {chunk : List Nat} (h : cs[c]? = some chunk) :
    rem cs (some c) = rem cs (checkedSub1 c) ++ chunk := by
  simp only [rem, take_cnt_some h, List.flatten_append, List.flatten_cons, List.flatten_nil, List.append_nil]

theorem rem_set {cs : List (List Nat)} {c : Nat} (x : List Nat) (hc : c < cs.length) :
    rem (cs.set c x) (some c) = rem cs (checkedSub1 c) ++ x := by
  simp only [rem, take_cnt_set x hc, List.flatten_append, List.flatten_cons, List.flatten_nil, List.append_nil]

theorem Inv.lt {ne : Prop} {cs : List (List Nat)} {c : Nat} (h : Inv ne cs (some c)) : c < cs.length := h.1

theorem Inv.get {ne : Prop} {cs : List (List Nat)} {c : Nat} (h : Inv ne cs (some c)) : ∃ chunk, cs[c]? = some chunk :=
  ⟨cs[c]'h.lt, List.getElem?_eq_getElem h.lt⟩

theorem Inv.sub1 {ne : Prop} {cs : List (List Nat)} {c : Nat} (h : Inv ne cs (some c)) : Inv ne cs (checkedSub1 c) := by
  obtain ⟨chunk, hget⟩ := h.get
  refine ⟨by rw [cnt_checkedSub1]; exact Nat.le_of_lt h.lt, fun hn ch hch => h.2 hn ch ?_⟩
  rw [take_cnt_some hget]; exact List.mem_append_left _ hch

theorem Inv.set {ne : Prop} {cs : List (List Nat)} {c : Nat} {x : List Nat} (h : Inv ne cs (some c)) (hx : x ≠ []) :
    Inv ne (cs.set c x) (some c) := by
  refine ⟨by rw [List.length_set]; exact h.1, fun hn ch hch => ?_⟩
  rw [take_cnt_set x h.lt, List.mem_append, List.mem_singleton] at hch
  rcases hch with h1 | rfl
  · exact h.sub1.2 hn ch h1
  · exact hx

theorem Inv.ne_nil {ne : Prop} {cs : List (List Nat)} {c i : Nat} (h : Inv ne cs (some c)) (hn : ne) (hi : i ≤ c) :
    cs[i]? ≠ some [] := fun hget =>
  h.2 hn [] (List.mem_iff_getElem?.2
    ⟨i, by rw [List.getElem?_take, if_pos (show i < cnt (some c) from Nat.lt_succ_of_le hi), hget]⟩) rfl

theorem setOut_nextDeclet {S : List Nat} (x : Nat) (h : S.length < 3) :
    setOut (nextDeclet S).1 S.length x = some (nextDeclet (x :: S)).1 :=
  match S, h with
  | [], _ | [_], _ | [_, _], _ => rfl

/-- The slow path never panics and never runs out of fuel, empty chunks included.  `S` are the digits already in `out`
    (`out_index = S.length`, the free slots hold `'0'`, as in `nextDeclet S`). -/
theorem slowLoop_spec {ne : Prop} (fuel : Nat) {cs : List (List Nat)} {idx : Option Nat} (S : List Nat)
    (hS : S.length ≤ 3) (hI : Inv ne cs idx) (hf : cnt idx + 3 < fuel + S.length) :
    ∃ cs' idx', slowLoop fuel cs idx (nextDeclet S).1 S.length = some ((nextDeclet (rem cs idx ++ S)).1, cs', idx') ∧
      rem cs' idx' = (nextDeclet (rem cs idx ++ S)).2 ∧ Inv ne cs' idx' := by
  induction fuel generalizing cs idx S with
  | zero => omega
  | succ fuel ih =>
    cases idx with
    | none => exact ⟨cs, none, by rw [rem_none]; exact slowLoop_none .., by rw [rem_none, List.nil_append, nextDeclet_short hS], hI⟩
    | some c =>
      rw [cnt_some] at hf
      by_cases h3 : S.length = 3
      · match S, h3 with
        | [x, y, z], _ => exact ⟨cs, some c, by rw [nextDeclet_append3]; exact slowLoop_three .., by rw [nextDeclet_append3], hI⟩
      · obtain ⟨chunk, hget⟩ := hI.get
        rw [rem_some hget]
        rcases List.eq_nil_or_concat chunk with rfl | ⟨pre, x, rfl⟩
        · -- l.199: empty chunk, move on
          rw [slowLoop_empty h3 hget, List.append_nil]
          exact ih S hS hI.sub1 (by rw [cnt_checkedSub1]; omega)
        · rw [List.concat_eq_append] at hget ⊢
          have ho := setOut_nextDeclet x (Nat.lt_of_le_of_ne hS h3)
          have hS' : (x :: S).length ≤ 3 := Nat.lt_of_le_of_ne hS h3
          rw [← List.append_assoc, List.append_assoc _ [x], List.singleton_append]
          by_cases hpre : pre = []
          · -- l.201: last byte of the chunk
            subst hpre
            rw [slowLoop_one h3 hget ho, List.append_nil]
            exact ih (x :: S) hS' hI.sub1 (by rw [cnt_checkedSub1, List.length_cons]; omega)
          · -- l.208: more than one byte left
            rw [slowLoop_many h3 hpre hget ho, ← rem_set pre hI.lt]
            exact ih (x :: S) hS' (hI.set hpre) (by rw [cnt_some, List.length_cons]; omega)

theorem nextDeclet_two (a b : Nat) : nextDeclet [a, b] = ((b, a, 48), []) := rfl
theorem nextDeclet_one (a : Nat) : nextDeclet [a] = ((a, 48, 48), []) := rfl

theorem next_spec {ne : Prop} {cs : List (List Nat)} {c : Nat} {chunk : List Nat} (hI : Inv ne cs (some c))
    (hget : cs[c]? = some chunk) (hne : chunk ≠ []) :
    ∃ out cs' idx', nextAsciiDecletRev cs (some c) = some (some out, cs', idx') ∧
      nextDeclet (rem cs (some c)) = (out, rem cs' idx') ∧ Inv ne cs' idx' := by
  have hf : cnt (checkedSub1 c) + 3 < cs.length + 3 + 1 := by
    rw [cnt_checkedSub1]; exact Nat.lt_succ_of_lt (Nat.add_lt_add_right hI.lt 3)
  rw [rem_some hget]
  rcases back_cases chunk hne with ⟨x, rfl⟩ | ⟨x, y, rfl⟩ | ⟨x, y, z, rfl⟩ | ⟨pre, x, y, z, hpre, rfl⟩
  · obtain ⟨cs', idx', h1, h2, h4⟩ := slowLoop_spec (cs.length + 3) [x] (Nat.le_add_left 1 2) hI.sub1 hf
    exact ⟨_, cs', idx', (next_one hget).trans (congrArg (Option.map _) h1), by rw [h2], h4⟩
  · obtain ⟨cs', idx', h1, h2, h4⟩ :=
      slowLoop_spec (cs.length + 3) [x, y] (Nat.le_add_left 2 1) hI.sub1 (Nat.lt_succ_of_lt hf)
    exact ⟨_, cs', idx', (next_two hget).trans (congrArg (Option.map _) h1), by rw [h2], h4⟩
  · exact ⟨(z, y, x), cs, checkedSub1 c, next_three hget, nextDeclet_append3 .., hI.sub1⟩
  · exact ⟨(z, y, x), cs.set c pre, some c, next_many hpre hget,
      by rw [← List.append_assoc, nextDeclet_append3, rem_set pre hI.lt], hI.set hpre⟩

theorem loop_succ_none (k : Nat) (cs : List (List Nat)) (bit : Nat) (b : Buf) :
    encodeLoopChunks (k + 1) cs none bit b = some (b, cs, none) := rfl

theorem loop_succ_panic {k : Nat} {cs : List (List Nat)} {idx : Option Nat} {bit : Nat} {b : Buf}
    (h : nextAsciiDecletRev cs idx = none) : encodeLoopChunks (k + 1) cs idx bit b = none :=
  congrArg (Option.bind · _) h

theorem loop_succ_some {k : Nat} {cs cs' : List (List Nat)} {idx idx' : Option Nat} {bit : Nat} {b : Buf} {a0 a1 a2 : Nat}
    (h : nextAsciiDecletRev cs idx = some (some (a0, a1, a2), cs', idx')) :
    encodeLoopChunks (k + 1) cs idx bit b =
      encodeLoopChunks k cs' idx' (bit + 10) (writeDpd b (dpdOfBcd (bcdOfAscii a0 a1 a2)) bit) :=
  congrArg (Option.bind · _) h

theorem loop_spec {ne : Prop} (k : Nat) {cs : List (List Nat)} {idx : Option Nat} (bit : Nat) (b : Buf) (hI : Inv ne cs idx) :
    sat (encodeLoopChunks k cs idx bit b) ne fun r =>
      encodeDeclets k (rem cs idx) bit b = (r.1, rem r.2.1 r.2.2) ∧ Inv ne r.2.1 r.2.2 := by
  induction k generalizing cs idx bit b with
  | zero => exact ⟨rfl, hI⟩
  | succ k ih =>
    cases idx with
    | none =>
      rw [loop_succ_none, rem_none]
      exact ⟨rfl, hI⟩
    | some c =>
      obtain ⟨chunk, hget⟩ := hI.get
      by_cases hne : chunk = []
      · -- empty chunk at the cursor: panic
        subst hne
        rw [loop_succ_panic (next_empty hget)]
        exact fun hn => hI.ne_nil hn (Nat.le_refl c) hget
      · obtain ⟨⟨a0, a1, a2⟩, cs1, idx1, h1, h2, h4⟩ := next_spec hI hget hne
        have hR : rem cs (some c) ≠ [] := by
          rw [rem_some hget]; intro h; exact hne (List.append_eq_nil_iff.1 h).2
        rw [loop_succ_some h1, encodeDeclets_succ hR h2]
        exact ih _ _ h4

/-- l.64–73 against the last line of `encodeSignificand`: `chunks[0][0]` is read only while `chunk_index` is `Some` -/
theorem msd_spec {ne : Prop} {cs : List (List Nat)} {idx : Option Nat} (digits : List Nat) (hI : Inv ne cs idx)
    (hpre : rem cs idx <+: digits) :
    sat (msdChunks cs idx) ne fun m => m = if (rem cs idx).isEmpty then 0 else digits.getD 0 48 - 48 := by
  cases idx with
  | none => rw [rem_none]; exact rfl
  | some c =>
    cases cs with
    | nil => exact absurd hI.lt (Nat.not_lt_zero c)
    | cons c0 tl =>
      cases c0 with
      | nil => exact fun hn => hI.ne_nil hn (Nat.zero_le c) rfl
      | cons x t =>
        obtain ⟨suf, rfl⟩ := hpre
        show x - 48 = _
        simp [rem]

theorem Inv_init {chunks : List (List Nat)} (hne : chunks ≠ []) :
    Inv (∀ c ∈ chunks, c ≠ []) chunks (some (chunks.length - 1)) ∧ rem chunks (some (chunks.length - 1)) = chunks.flatten := by
  have hc : cnt (some (chunks.length - 1)) = chunks.length := by
    rw [cnt_some]; exact Nat.sub_add_cancel (List.length_pos_iff.2 hne)
  rw [rem, Inv, hc, List.take_length]
  exact ⟨⟨Nat.le_refl _, id⟩, rfl⟩

theorem encodeSignificandChunks?_unfold (b : Buf) (chunks : List (List Nat)) (hne : chunks ≠ []) :
    encodeSignificandChunks? b chunks =
      (encodeLoopChunks (b.trailingDigits / 3) chunks (some (chunks.length - 1)) 0 b).bind fun r =>
        (msdChunks r.2.1 r.2.2).bind fun m => some (r.1, m) := by
  have : chunks.length ≠ 0 := fun h => hne (List.length_eq_zero_iff.1 h)
  simp only [encodeSignificandChunks?, this, if_false, Option.bind_eq_bind]

theorem encodeSignificandChunks?_spec (b : Buf) (chunks : List (List Nat)) (hne : chunks ≠ []) :
    sat (encodeSignificandChunks? b chunks) (∀ c ∈ chunks, c ≠ []) (· = encodeSignificand b chunks.flatten) := by
  obtain ⟨hI, hrem⟩ := Inv_init hne
  rw [encodeSignificandChunks?_unfold b chunks hne]
  refine (loop_spec (b.trailingDigits / 3) 0 b hI).bind fun r ⟨e1, hI'⟩ => ?_
  rw [hrem] at e1
  have hpre : rem r.2.1 r.2.2 <+: chunks.flatten := by
    have h : rem r.2.1 r.2.2 = _ := e1 ▸ encodeDeclets_rest (b.trailingDigits / 3) chunks.flatten 0 b
    rw [h]; exact List.take_prefix _ _
  refine (msd_spec chunks.flatten hI' hpre).bind fun m hm => ?_
  show (r.1, m) = _
  rw [hm, encodeSignificand, e1]

theorem encodeSignificandChunks?_sound (b : Buf) (chunks : List (List Nat)) (r : Buf × Nat)
    (h : encodeSignificandChunks? b chunks = some r) : r = encodeSignificand b chunks.flatten := by
  by_cases hne : chunks = []
  · subst hne; cases h
  · have := encodeSignificandChunks?_spec b chunks hne
    rwa [h] at this

theorem encodeSignificandChunks?_eq (b : Buf) (chunks : List (List Nat)) (hne : chunks ≠ [])
    (h : ∀ c ∈ chunks, c ≠ []) :
    encodeSignificandChunks? b chunks = some (encodeSignificand b chunks.flatten) :=
  match encodeSignificandChunks? b chunks, encodeSignificandChunks?_spec b chunks hne with
  | some _, hs => congrArg some hs
  | none, hs => absurd h hs

/-- the main theorem: what the callers' chunk arrays give is what `Model.Binary` computes on the concatenation -/
theorem encodeSignificandChunks_eq (b : Buf) (chunks : List (List Nat)) (hne : chunks ≠ []) (h : ∀ c ∈ chunks, c ≠ []) :
    encodeSignificandChunks b chunks = encodeSignificand b chunks.flatten := by
  rw [encodeSignificandChunks, encodeSignificandChunks?_eq b chunks hne h]; rfl

theorem encodeSignificandChunks?_panic_or_eq (b : Buf) (chunks : List (List Nat)) :
    encodeSignificandChunks? b chunks = none ∨
    encodeSignificandChunks? b chunks = some (encodeSignificand b chunks.flatten) := by
  cases hr : encodeSignificandChunks? b chunks with
  | none => exact Or.inl rfl
  | some r => exact Or.inr (congrArg some (encodeSignificandChunks?_sound b chunks r hr))

/-! ## corollaries for the two shapes the callers use (`convert.rs` l.113, l.139, l.186; `binary.rs` l.42) -/

/-- `encode_significand_trailing_digits(buf, [integer_digits])` -/
theorem encodeSignificandChunks_one (b : Buf) (ds : List Nat) (h : ds ≠ []) :
    encodeSignificandChunks b [ds] = encodeSignificand b ds := by
  rw [encodeSignificandChunks_eq b [ds] (by simp) (by simpa using h)]; simp

/-- `encode_significand_trailing_digits(buf, [integer_digits, fractional_digits])` -/
theorem encodeSignificandChunks_two (b : Buf) (i f : List Nat) (hi : i ≠ []) (hf : f ≠ []) :
    encodeSignificandChunks b [i, f] = encodeSignificand b (i ++ f) := by
  rw [encodeSignificandChunks_eq b [i, f] (by simp) (by simp [hi, hf])]; simp

theorem last_chunk_empty_panics (b : Buf) (pre : List (List Nat)) (hk : 0 < b.trailingDigits / 3) :
    encodeSignificandChunks? b (pre ++ [[]]) = none := by
  obtain ⟨k, hk'⟩ := Nat.exists_eq_add_one_of_ne_zero (Nat.ne_of_gt hk)
  rw [encodeSignificandChunks?_unfold b _ (by simp), hk']
  have hget : (pre ++ [[]])[(pre ++ [[]]).length - 1]? = some [] := by simp
  rw [loop_succ_panic (next_empty hget)]
  rfl

/-- `chunks[0][0]` after the loop, e.g. for `["", "1234567"]` into decimal32 -/
theorem msd_empty_panics (cs : List (List Nat)) (c : Nat) (h : cs[0]? = some []) : msdChunks cs (some c) = none := by
  simp [msdChunks, h]

/-- No chunks at all (`N = 0`): `Some(N - 1)` underflows. -/
theorem no_chunks_panics (b : Buf) : encodeSignificandChunks? b [] = none := rfl

/-- the ceiling `⌈(max_digits − digit_index) / 3⌉` is written `(max_digits + 2 − digit_index) / 3`: one round more is then
    `+ 3` in the numerator, also when fewer than three digits are missing -/
theorem encodeLoopChunksDI_eq {fuel di maxDigits : Nat} (cs : List (List Nat)) (idx : Option Nat) (bit : Nat) (b : Buf)
    (h : (maxDigits + 2 - di) / 3 < fuel) :
    encodeLoopChunksDI fuel di maxDigits cs idx bit b = encodeLoopChunks ((maxDigits + 2 - di) / 3) cs idx bit b := by
  induction fuel generalizing di cs idx bit b with
  | zero => exact absurd h (Nat.not_lt_zero _)
  | succ fuel ih =>
    by_cases hlt : di < maxDigits
    · have hk : maxDigits + 2 - di = maxDigits + 2 - (di + 3) + 3 := by omega
      rw [hk, Nat.add_div_right _ (by decide)] at h ⊢
      refine (if_pos hlt).trans (congrArg (Option.bind _) (funext fun ⟨r, cs', idx'⟩ => ?_))
      cases r with
      | none => rfl
      | some d => exact ih cs' idx' _ _ (Nat.lt_of_succ_lt_succ h)
    · rw [Nat.div_eq_of_lt (by omega : maxDigits + 2 - di < 3)]
      exact if_neg hlt

/-- `max_digits % 3 = 0` (the `debug_assert` of l.37) for every buffer of `4n` bytes -/
theorem trailingDigits_mod3 (b : Buf) (h : b.len % 4 = 0) : b.trailingDigits % 3 = 0 := by
  obtain ⟨n, hn⟩ := Nat.dvd_of_mod_eq_zero h
  rw [Buf.trailingDigits_of_len hn]
  omega

/-- the literal `while digit_index < max_digits` loop is the `max_digits / 3`-fold loop of the models -/
theorem encodeLoopChunksDI_trailing (b : Buf) (h : b.len % 4 = 0) (cs : List (List Nat)) (idx : Option Nat) :
    encodeLoopChunksDI (b.trailingDigits + 1) 0 b.trailingDigits cs idx 0 b =
      encodeLoopChunks (b.trailingDigits / 3) cs idx 0 b := by
  obtain ⟨q, hq⟩ := Nat.dvd_of_mod_eq_zero (trailingDigits_mod3 b h)
  have e : (b.trailingDigits + 2 - 0) / 3 = b.trailingDigits / 3 := by
    rw [hq, Nat.sub_zero, Nat.mul_add_div (by decide), Nat.mul_div_cancel_left _ (by decide)]; rfl
  rw [encodeLoopChunksDI_eq _ _ _ _ (by rw [e]; exact Nat.lt_succ_of_le (Nat.div_le_self _ _)), e]

/-! ## TEST (not a proof): the transcription against the concatenation model, by kernel evaluation

Every split of `"1234567"` and of a 16-digit string into two chunks (three for the former), into decimal32/64/96 buffers:
digits left over, running out exactly, running out early.  `tools/difftest-chunks/run.sh` compares the same functions with
the compiled Rust code (notes/NOTES-chunks.md). -/
section Test

def s7 : List Nat := [49, 50, 51, 52, 53, 54, 55]                                  -- "1234567"
def s16 : List Nat := [57, 56, 55, 54, 53, 52, 51, 50, 49, 48, 49, 50, 51, 52, 53, 54]  -- "9876543210123456"

def agree2 (nbytes : Nat) (l : List Nat) (i : Nat) : Bool :=
  encodeSignificandChunks? (Buf.zero nbytes) [l.take i, l.drop i] == some (encodeSignificand (Buf.zero nbytes) l)

def agree3 (nbytes : Nat) (l : List Nat) (i j : Nat) : Bool :=
  encodeSignificandChunks? (Buf.zero nbytes) [l.take i, (l.drop i).take j, (l.drop i).drop j]
    == some (encodeSignificand (Buf.zero nbytes) l)

example : encodeSignificandChunks (Buf.zero 4) [s7] = encodeSignificand (Buf.zero 4) s7 := by decide +kernel
example : encodeSignificandChunks (Buf.zero 8) [s16] = encodeSignificand (Buf.zero 8) s16 := by decide +kernel
-- "1234567": split positions 1..6, decimal32 (one digit left over) and decimal64 (zero padding)
example : ∀ i ∈ [1, 2, 3, 4, 5, 6], agree2 4 s7 i = true := by decide +kernel
example : ∀ i ∈ [1, 2, 3, 4, 5, 6], agree2 8 s7 i = true := by decide +kernel
-- the value both compute for decimal32: declets 567, 234 and most significant digit 1
example : encodeSignificandChunks (Buf.zero 4) [[49, 50, 51], [52, 53, 54, 55]] = (⟨4, 316135⟩, 1) := by decide +kernel
-- 16 digits: split positions 1..15, decimal32 (ten digits left over), decimal64 (exact fit), decimal96 (padding)
example : ∀ i ∈ List.range' 1 15, agree2 4 s16 i = true := by decide +kernel
example : ∀ i ∈ List.range' 1 15, agree2 8 s16 i = true := by decide +kernel
example : ∀ i ∈ List.range' 1 15, agree2 12 s16 i = true := by decide +kernel
-- "1234567" into three non-empty chunks, all 15 ways
example : ∀ i ∈ List.range' 1 5, ∀ j ∈ List.range' 1 (6 - i), agree3 4 s7 i j = true := by decide +kernel
example : ∀ i ∈ List.range' 1 5, ∀ j ∈ List.range' 1 (6 - i), agree3 8 s7 i j = true := by decide +kernel

/-! ### TEST: empty chunks (inputs the callers never produce) -/

-- `["", "123"]`: first call finishes chunk 1 by the `3 =>` arm, second call finds the empty chunk 0: panic
example : encodeSignificandChunks? (Buf.zero 4) [[], [49, 50, 51]] = none := by decide +kernel
-- `["123", ""]`: the cursor starts on the empty chunk: panic at once
example : encodeSignificandChunks? (Buf.zero 4) [[49, 50, 51], []] = none := by decide +kernel
-- `["", "1234567"]` (decimal32): both declets come from chunk 1, then `chunks[0][0]` panics
example : encodeSignificandChunks? (Buf.zero 4) [[], s7] = none := by decide +kernel
-- `["", "12345"]`: chunk 1 ends in the `2 =>` arm, the slow path skips the empty chunk (l.199): no panic, right answer
example : encodeSignificandChunks? (Buf.zero 4) [[], [49, 50, 51, 52, 53]]
    = some (encodeSignificand (Buf.zero 4) [49, 50, 51, 52, 53]) := by decide +kernel
-- `["12", "", "34"]`: the empty chunk is met inside the slow path and skipped
example : encodeSignificandChunks? (Buf.zero 4) [[49, 50], [], [51, 52]]
    = some (encodeSignificand (Buf.zero 4) [49, 50, 51, 52]) := by decide +kernel
-- `["1", "", "234567"]` (decimal32): the loop stops before it reaches the empty chunk: no panic, right answer
example : encodeSignificandChunks? (Buf.zero 4) [[49], [], [50, 51, 52, 53, 54, 55]] = some (encodeSignificand (Buf.zero 4) s7) := by
  decide +kernel
-- `["1234", "", "567"]`: the empty chunk is met at the start of a call: panic
example : encodeSignificandChunks? (Buf.zero 4) [[49, 50, 51, 52], [], [53, 54, 55]] = none := by decide +kernel
-- the total wrapper returns its junk default `(b, 0)` exactly there
example : encodeSignificandChunks (Buf.zero 4) [[49, 50, 51, 52], [], [53, 54, 55]] = (Buf.zero 4, 0) := by decide +kernel

end Test

/-! ## the hypotheses of the main theorems are satisfiable (non-trivial instances) -/

example : encodeSignificandChunks (Buf.zero 8) [[49, 50], [51, 52, 53, 54, 55]] = encodeSignificand (Buf.zero 8) s7 :=
  encodeSignificandChunks_eq (Buf.zero 8) [[49, 50], [51, 52, 53, 54, 55]] (by decide) (by decide)

example : encodeSignificandChunks? (Buf.zero 4) [[49], [50, 51, 52], [53, 54, 55]] = some (encodeSignificand (Buf.zero 4) s7) :=
  encodeSignificandChunks?_eq (Buf.zero 4) [[49], [50, 51, 52], [53, 54, 55]] (by decide) (by decide)

example : (Buf.zero 8).len % 4 = 0 := by decide

#print axioms encodeSignificandChunks_eq
#print axioms encodeSignificandChunks?_eq
#print axioms encodeSignificandChunks?_sound
#print axioms encodeSignificandChunks?_panic_or_eq
#print axioms slowLoop_spec
#print axioms next_spec
#print axioms loop_spec
#print axioms last_chunk_empty_panics
#print axioms encodeLoopChunksDI_trailing

end Decstr.Proofs.Chunks
