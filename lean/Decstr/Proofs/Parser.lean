import Decstr.Proofs.ParserFiniteStr
/-!
# Proofs.Parser — the statements about the string entry point `parseStr` (C06, part of C17) in one place, with concrete
instances showing that their hypotheses are met by real inputs.  All hold for every byte list, of any length.
-/
namespace Decstr.Proofs
open Decstr.Model Decstr.Spec

example (txt : List Nat) : (∃ p, parseStr txt = .ok p) ↔ (Spec.parse txt).isSome := parseStr_ok_iff txt
example (txt : List Nat) (p : Parsed) (h : parseStr txt = .ok p) : Spec.parse txt = some (numeralOf p) :=
  parseStr_numeral txt p h
example (txt : List Nat) (p : Parsed) (h : parseStr txt = .ok p) : FieldsOK txt p := parseStr_fields_ascii txt p h
example (txt : List Nat) (e : ParseErr) (h : parseStr txt = .error e) : (∃ c, e = .char c) ∨ e = .endOfInput :=
  parseStr_error_kind txt e h
example (txt : List Nat) (c : Nat) :
    parseStr txt = .error (.char c) ↔ ∃ i, firstBad txt = some i ∧ txt[i]? = some c := parseStr_err_char txt c
example (txt : List Nat) :
    parseStr txt = .error .endOfInput ↔ (firstBad txt = none ∧ (Spec.parse txt).isNone) := parseStr_err_end txt
example (txt : List Nat) (h : startsWithDigitOrMinusDigit txt = true) :
    (parseFiniteStr txt).map numeralOf = (parseStr txt).map numeralOf := parseFiniteStr_eq txt h

/-- `-1.5e+3` -/
def exFinite : List Nat := [45, 49, 46, 53, 101, 43, 51]
/-- `+sNaN(042)` -/
def exNan : List Nat := [43, 115, 78, 97, 78, 40, 48, 52, 50, 41]
/-- `-Infinity` -/
def exInf : List Nat := [45, 73, 110, 102, 105, 110, 105, 116, 121]

theorem exFinite_ok : parseStr exFinite =
    .ok (.finite ⟨⟨.str, exFinite, 7⟩, ⟨true, ⟨1, 4⟩, some ⟨2, 3⟩⟩, some ⟨false, ⟨6, 7⟩⟩⟩) := by
  rw [parseStr_eq_runD]; rfl
theorem exNan_ok : parseStr exNan = .ok (.nan ⟨⟨.str, exNan, 10⟩, true, false, some ⟨false, ⟨6, 9⟩, none⟩⟩) := by
  rw [parseStr_eq_runD]; rfl
theorem exInf_ok : parseStr exInf = .ok (.infinity true) := by
  rw [parseStr_eq_runD]; rfl

-- `parseStr_numeral`: the ranges denote the grammar's fields
example : Spec.parse exFinite = some (.finite true [1] [5] (some (false, [3]))) := by
  rw [parseStr_numeral _ _ exFinite_ok]; decide
example : Spec.parse exNan = some (.nan false true (some [0, 4, 2])) := by
  rw [parseStr_numeral _ _ exNan_ok]; decide
example : Spec.parse exInf = some (.inf true) := parseStr_numeral _ _ exInf_ok
-- `parseStr_ok_iff`, right to left: acceptance follows from the grammar alone
example : ∃ p, parseStr exFinite = .ok p := (parseStr_ok_iff exFinite).2 (by decide)
example : AsciiDigits (slice exFinite ⟨1, 2⟩) ∧ AsciiDigits (slice exFinite ⟨3, 4⟩) ∧ slice exFinite ⟨6, 7⟩ ≠ [] := by
  have h := parseStr_fields_ascii _ _ exFinite_ok
  exact ⟨h.2.1.1, h.2.1.2.2.1, (h.2.2 _ rfl).2⟩
example : AsciiDigits (slice exNan ⟨6, 9⟩) := ((parseStr_fields_ascii _ _ exNan_ok).2 _ rfl).1
-- `parseStr_err_char`: `1x`, `1.5e+-3`, `nan(1a)`
example : parseStr [49, 120] = .error (.char 120) := (parseStr_err_char _ _).2 ⟨1, by decide +kernel, rfl⟩
example : parseStr [49, 46, 53, 101, 43, 45, 51] = .error (.char 45) := (parseStr_err_char _ _).2 ⟨5, by decide +kernel, rfl⟩
example : parseStr [110, 97, 110, 40, 49, 97, 41] = .error (.char 97) := (parseStr_err_char _ _).2 ⟨5, by decide +kernel, rfl⟩
example : ∃ i, firstBad [49, 120] = some i ∧ [49, 120][i]? = some 120 :=
  (parseStr_err_char _ _).1 (by rw [parseStr_eq_runD]; rfl)
-- `parseStr_err_end`: `1e`, `-`, `nan(`, `infin`
example : parseStr [49, 101] = .error .endOfInput := (parseStr_err_end _).2 (by decide +kernel)
example : parseStr [45] = .error .endOfInput := (parseStr_err_end _).2 (by decide +kernel)
example : parseStr [110, 97, 110, 40] = .error .endOfInput := (parseStr_err_end _).2 (by decide +kernel)
example : parseStr [105, 110, 102, 105, 110] = .error .endOfInput := (parseStr_err_end _).2 (by decide +kernel)
example : parseStr [] = .error .endOfInput := (parseStr_err_end _).2 (by decide +kernel)
example : (∃ c, ParseErr.char 120 = .char c) ∨ ParseErr.char 120 = .endOfInput :=
  parseStr_error_kind [49, 120] _ ((parseStr_err_char _ _).2 ⟨1, by decide +kernel, rfl⟩)
-- `parseFiniteStr_eq`: `-12e3`, `7`
example : parseFiniteStr [45, 49, 50, 101, 51] = parseStr [45, 49, 50, 101, 51] := parseFiniteStr_eq_parseStr _ (by decide)
example : (parseFiniteStr [55]).map numeralOf = (parseStr [55]).map numeralOf := parseFiniteStr_eq _ (by decide)

end Decstr.Proofs

#print axioms Decstr.Proofs.semParse_eq_parse
#print axioms Decstr.Proofs.parseStr_refines
#print axioms Decstr.Proofs.parseStr_ok_iff
#print axioms Decstr.Proofs.parseStr_numeral
#print axioms Decstr.Proofs.parseStr_fields_ascii
#print axioms Decstr.Proofs.parseStr_error_kind
#print axioms Decstr.Proofs.viable_iff_runs
#print axioms Decstr.Proofs.parseStr_err_char
#print axioms Decstr.Proofs.parseStr_err_end
#print axioms Decstr.Proofs.parseFiniteStr_eq_parseStr
#print axioms Decstr.Proofs.parseFiniteStr_eq
