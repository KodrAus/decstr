import Decstr.Proofs.ExecParsed
import Decstr.Proofs.ParserRefine
/-!
# Proofs.ExecParsedOK — the parsers deliver what `decimal_from_parsed` needs (`ParsedOK`): ranges inside the text
(from the buffer invariants `InvD`, which hold for the borrowed-string, array and vector buffers alike) over non-empty
runs of ASCII digits (the fields the buffer-free parser computes: `ADec.run_fieldsGood`).
-/
namespace Decstr.Proofs.Exec
open Decstr.Model Decstr.Model.Exec Decstr.Spec

theorem DigitsNE.of_ne {l : List Nat} {r : Range} (hd : AsciiDigits (slice l r)) (hne : slice l r ≠ [])
    (hle : r.stop ≤ l.length) : DigitsNE l r :=
  ⟨Nat.lt_of_sub_pos (slice_length l r hle ▸ List.length_pos_iff.2 hne), hle, hd⟩

theorem pos_le_of_tracks {b : TextBuf} (h : Tracks txt b []) : b.pos ≤ b.ascii.length := by
  rw [pos_eq_seen_length h, seen]
  split
  · exact List.length_take_le' _ _
  · exact Nat.le_refl _

/-- `FieldsGood` speaks of the digit strings, `ParsedOK` of the ranges `decimal_from_parsed` slices out of the buffer: the
    parser invariant (`InvD`, kept by the byte loop: `runD_ok`) ties the two, since the text behind a range is the
    field and the ranges end at or before the buffer's position, which is within the text (`pos_le_of_tracks`).  The
    optional fields are the optional ranges mapped by slicing, and a statement about all of `o.map g` is one about all of
    `o` (`Option.forall_mem_map`: `x ∈ o` is `o = some x` by definition) -/
theorem parsedOK_of_run {b : TextBuf} {t txt : List Nat} {p : Parsed} (hI0 : InvD t (DecimalParser.begin b) txt)
    (h : runD (DecimalParser.begin b) txt = .ok p) : ParsedOK p := by
  have hG : FieldsGood (asciiFields p) := ADec.run_fieldsGood ((runD_view _ _ hI0).symm.trans (congrArg _ h))
  obtain ⟨dp, hI, -, hfin⟩ := runD_ok hI0 rfl h
  rcases DecimalParser.finish_eq_ok hfin with ⟨f, rfl, -, rfl⟩ | ⟨i, rfl, rfl⟩ | ⟨n, rfl, rfl⟩
  · obtain ⟨hF, hT⟩ := hI
    have hpos := pos_le_of_tracks hT
    have hstop : f.sig.range.stop ≤ f.buf.ascii.length := Nat.le_trans hF.stop_le hpos
    dsimp only [ParsedOK, FieldsGood, asciiFields] at hG ⊢
    obtain ⟨gi, gine, gfr, gex⟩ := hG
    refine ⟨?_, fun e he => ?_⟩
    · cases hp : f.sig.point with
      | none =>
        simp only [hp, sigInt] at gi gine ⊢
        exact .of_ne gi gine hstop
      | some pt =>
        obtain ⟨f1, f2⟩ := Option.forall_mem_map.1 gfr pt hp
        simp only [hp, sigInt] at gi gine ⊢
        exact ⟨.of_ne gi gine (Nat.le_trans (hF.point_le hp) hpos), .of_ne f1 f2 hstop⟩
    · obtain ⟨e1, e2⟩ := Option.forall_mem_map.1 gex e he
      exact .of_ne e1 e2 ((hF.exp_some he).2.1 ▸ hpos)
  · trivial
  · intro s hs hgt
    exact ⟨hgt, Nat.le_trans (hI.1.stop_le hs) (pos_le_of_tracks hI.2), (Option.forall_mem_map.1 hG s hs).1⟩

theorem parseStr_parsedOK {txt : List Nat} {p : Parsed} (h : parseStr txt = .ok p) : ParsedOK p :=
  parsedOK_of_run (invD_begin_str txt) (parseStr_eq_runD txt ▸ h)

end Decstr.Proofs.Exec

#print axioms Decstr.Proofs.Exec.parseStr_parsedOK
