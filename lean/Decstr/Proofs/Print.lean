import Decstr.Proofs.Decode
import Decstr.Proofs.Format
/-!
# Proofs.Print — where the decoder meets the formatter, and the exact text of a decimal with exponent 0

`toText` is the sign followed by one of the three arms of Format.lean, applied to what the decoder returns.  By the
uniqueness of decimal notation the digits left after the leading zeros are a function of the coefficient alone
(`sigStr`); with exponent 0 the finite arm writes just these, so the text is `natDigits` of the coefficient.
Core Lean only.
-/
namespace Decstr.Proofs
open Decstr.Model Decstr.Spec

theorem toText_finite (T : Ty) {b : Buf} {n : Nat} (h : WF b n) (hfin : isFinite b = true) :
    toText T b = signText (isSignNegative b) ++
      fmtFinite T (9 * n - 2) ((unbiasedExponent b).2 + 48) (decodeDeclets b) (unbiasedExponent b).1 := by
  simp only [toText, hfin, if_true, signText, Buf.precision_of_len h.len]

theorem toText_infinite (T : Ty) {b : Buf} (hfin : isFinite b = false) (hinf : isInfinite b = true) :
    toText T b = signText (isSignNegative b) ++ [105, 110, 102] := by
  simp only [toText, hfin, hinf, if_true, signText, Bool.false_eq_true, if_false]

theorem toText_nan (T : Ty) {b : Buf} (hfin : isFinite b = false) (hinf : isInfinite b = false) :
    toText T b = signText (isSignNegative b) ++ fmtNan (isQuietNan b) (decodeDeclets b) := by
  simp only [toText, hfin, hinf, signText, Bool.false_eq_true, if_false]

/-- a buffer of an `i32`-exponent type has at most 160 bits, whose exponents stay within ±24617: `raise` does not saturate -/
theorem exponent_small (T : Ty) {b : Buf} {n : Nat} (h : WF b n) (hT : T.expIsI32 = true → n ≤ 5)
    (hfin : isFinite b = true) :
    T.expIsI32 = true → (-(2:Int)^30 ≤ (unbiasedExponent b).1 ∧ (unbiasedExponent b).1 ≤ 2^30 ∧ n ≤ 2^20) := by
  intro hi
  have hn := hT hi
  obtain ⟨h1, h2⟩ := finite_exponent_range h hfin
  have hp := h.pos
  have hb := small_range n hp hn
  exact ⟨by omega, by omega, by omega⟩

/-- uniqueness of decimal notation -/
theorem natDigits_valOf (S : List Nat) (hS : AsciiDigits S) (hne : S ≠ []) (hh : S.head? = some 48 → S = [48]) :
    natDigits (valOf S) = S := by
  by_cases h0 : S.head? = some 48
  · rw [hh h0]; rfl
  · -- no leading zero: by induction on the length, taking the last digit off as `natDigits` does
    clear hh
    generalize hk : S.length = k
    induction k generalizing S with
    | zero => exact absurd (List.length_eq_zero_iff.mp hk) hne
    | succ k ih =>
      obtain ⟨init, d, rfl⟩ : ∃ init d, S = init ++ [d] := ⟨_, _, (List.dropLast_concat_getLast hne).symm⟩
      obtain ⟨hi, hd⟩ := asciiDigits_append.1 hS
      have hd := hd d (List.mem_singleton_self d)
      rw [valOf_snoc, natDigits_eq_if]
      cases init with
      | nil =>
        rw [show valOf [] = 0 from rfl, if_pos (by omega), Nat.zero_mul, Nat.zero_add, Nat.add_sub_cancel' hd.1]
        rfl
      | cons a l =>
        have hpos := valOf_pos_of_head hi (List.cons_ne_nil a l) h0
        have hr : d - 48 < 10 := by omega
        rw [if_neg (by omega), Nat.mul_comm, Nat.mul_add_div (by decide), Nat.mul_add_mod, Nat.div_eq_of_lt hr,
          Nat.mod_eq_of_lt hr, Nat.add_zero, Nat.add_sub_cancel' hd.1, ih _ hi (List.cons_ne_nil a l) h0 (by simpa using hk)]

/-- the significant digits of a coefficient: its decimal text, nothing for zero -/
def sigStr (c : Nat) : List Nat := if c = 0 then [] else natDigits c

theorem sigStr_ascii (c : Nat) : AsciiDigits (sigStr c) := by
  unfold sigStr
  split
  · exact asciiDigits_nil
  · exact natDigits_ascii c

theorem stripped_eq_sigStr {ds : List Nat} (hds : AsciiDigits ds) : ds.dropWhile (· == 48) = sigStr (valOf ds) := by
  unfold sigStr
  by_cases h : ds.dropWhile (· == 48) = []
  · rw [h, if_pos (valOf_eq_zero_of_dropWhile_nil ds h)]
  · have hp := valOf_pos_of_head (hds.dropWhile _) h (dropWhile_zero_head ds)
    rw [valOf_dropWhile_zero] at hp
    rw [if_neg (by omega), ← valOf_dropWhile_zero,
      natDigits_valOf _ (hds.dropWhile _) h fun h0 => absurd h0 (dropWhile_zero_head ds)]

/-- what the integer layout writes -/
theorem sigStr_or_zero (c : Nat) : (if sigStr c = [] then [48] else sigStr c) = natDigits c := by
  unfold sigStr
  split
  · next h => rw [h]; rfl
  · rw [if_neg (natDigits_ne_nil _)]

theorem fmtFinite_integer (T : Ty) {n msd : Nat} {declets : List (List Nat)} (h : DigitsOK n msd declets) :
    fmtFinite T (9 * n - 2) msd declets 0 = natDigits (valOf (msd :: declets.flatten)) := by
  rw [fmtFinite_eq_fmtS T h, fmtS, if_pos rfl, stripped_eq_sigStr h.ascii]
  exact sigStr_or_zero _

theorem toText_exp_zero (T : Ty) {b : Buf} {n : Nat} (h : WF b n) (hfin : isFinite b = true)
    (he : (unbiasedExponent b).1 = 0) :
    toText T b = signText (isSignNegative b) ++ natDigits (valOf (allDigits b (unbiasedExponent b).2)) := by
  rw [toText_finite T h hfin, he, fmtFinite_integer T (digitsOK h)]
  rfl

theorem toText_of_decode_int (T : Ty) {b : Buf} {n : Nat} (h : WF b n) {s : Bool} {c : Nat}
    (hdec : decode ⟨n⟩ b.bits = .fin s c 0) : toText T b = signText s ++ natDigits c := by
  obtain ⟨hfin, hs, hc, he⟩ := h.of_decode_fin hdec
  rw [toText_exp_zero T h hfin he, hs, hc]

/-- `natDigits_valOf` on `"1200"` and on `"0"` -/
example : natDigits (valOf [49, 50, 48, 48]) = [49, 50, 48, 48] :=
  natDigits_valOf _ (by intro d hd; simp at hd; omega) (by simp) (by simp)
example : natDigits (valOf [48]) = [48] :=
  natDigits_valOf _ asciiDigits_zero (by simp) (by simp)

/-- the decimal32 digits `0 001 200`, exponent 0, print as `1200` -/
example : fmtFinite .b32 7 48 [[48, 48, 49], [50, 48, 48]] 0 = natDigits 1200 := by
  have := fmtFinite_integer .b32 (n := 1) (msd := 48) (declets := [[48, 48, 49], [50, 48, 48]])
    ⟨by decide, by decide, rfl, by unfold AsciiDigits; decide⟩
  rw [this]; rfl

end Decstr.Proofs

#print axioms Decstr.Proofs.natDigits_valOf
#print axioms Decstr.Proofs.fmtFinite_integer
#print axioms Decstr.Proofs.toText_exp_zero
#print axioms Decstr.Proofs.toText_of_decode_int
