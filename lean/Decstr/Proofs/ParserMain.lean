import Decstr.Proofs.ParserRefine
import Decstr.Proofs.ParserErr
/-!
# Proofs.ParserMain — C06 for the string entry point `Model.parseStr`: refinement of the semantic parser

`parseStr` reads off its buffer the fields the buffer-free `ADec` computes (`parseStr_fields`), and `ADec` refines the
automaton (`adec_refines`); hence `(parseStr txt).map numeralOf = refAnswer txt`, of which every other statement about
`parseStr` is a reading.  What the ranges of an accepted text cover (`FieldsOK`) is read off the fields as well.
-/
namespace Decstr.Proofs
open Decstr.Model Decstr.Spec

/-- **Refinement**: with every recorded range read back as digits, results and errors alike -/
theorem parseStr_refines (txt : List Nat) : (parseStr txt).map numeralOf = semParseE txt := by
  rw [← adec_refines, ← parseStr_fields]
  exact outcome_eq _

theorem parseStr_spec (txt : List Nat) : (parseStr txt).map numeralOf = refAnswer txt := by
  rw [parseStr_refines, semParseE_eq_ref]

theorem Except.map_eq_error {ε α β : Type} {f : α → β} {x : Except ε α} {e : ε} : x.map f = .error e ↔ x = .error e := by
  cases x <;> simp [Except.map]

theorem parseStr_ok (txt : List Nat) (n : Numeral) :
    (∃ p, parseStr txt = .ok p ∧ numeralOf p = n) ↔ Spec.parse txt = some n := by
  rw [← refAnswer_eq_ok, ← parseStr_spec, Except.map_eq_ok]

theorem parseStr_error (txt : List Nat) (e : ParseErr) : parseStr txt = .error e ↔ refAnswer txt = .error e := by
  rw [← parseStr_spec, Except.map_eq_error]

/-- **C06**: an accepted string is never mis-tokenised: every byte lands in the field the grammar assigns it -/
theorem parseStr_numeral (txt : List Nat) (p : Parsed) (h : parseStr txt = .ok p) :
    Spec.parse txt = some (numeralOf p) :=
  (parseStr_ok txt _).1 ⟨p, h, rfl⟩

/-- **C06**: the parser accepts exactly the grammar -/
theorem parseStr_ok_iff (txt : List Nat) : (∃ p, parseStr txt = .ok p) ↔ (Spec.parse txt).isSome := by
  constructor
  · rintro ⟨p, h⟩
    rw [parseStr_numeral txt p h]; rfl
  · intro h
    obtain ⟨n, hn⟩ := Option.isSome_iff_exists.1 h
    obtain ⟨p, hp, -⟩ := (parseStr_ok txt n).2 hn
    exact ⟨p, hp⟩

theorem parseStr_error_kind (txt : List Nat) (e : ParseErr) (h : parseStr txt = .error e) :
    (∃ c, e = .char c) ∨ e = .endOfInput := by
  have := (parseStr_error txt e).1 h
  unfold refAnswer at this
  split at this <;> cases this
  · exact Or.inl ⟨_, rfl⟩
  · exact Or.inr rfl

/-- **C17**: a syntax error names the first byte after which no grammatical completion exists -/
theorem parseStr_err_char (txt : List Nat) (c : Nat) :
    parseStr txt = .error (.char c) ↔ ∃ i, firstBad txt = some i ∧ txt[i]? = some c :=
  (parseStr_error txt _).trans refAnswer_eq_char

/-- **C17**: unexpected end is reported exactly when the text is a proper prefix of a numeral -/
theorem parseStr_err_end (txt : List Nat) :
    parseStr txt = .error .endOfInput ↔ (firstBad txt = none ∧ (Spec.parse txt).isNone) :=
  (parseStr_error txt _).trans refAnswer_eq_end

/-- "buffer too small" is reported only for a text longer than the buffer: the string entry point never says it -/
theorem C14_array_fits (cap : Nat) (frs : List (List Nat)) (h : frs.flatten.length ≤ cap) :
    parseFmt (.array cap) frs .none ≠ .error .bufferTooSmall := by
  intro he
  have h1 := C14_array_fits_fields cap frs h
  rw [he] at h1
  cases hp : parseStr frs.flatten with
  | ok q => rw [hp] at h1; cases h1
  | error e =>
    rw [hp] at h1; cases h1
    rcases parseStr_error_kind _ _ hp with ⟨c, hc⟩ | hc <;> cases hc

/-- the sliced fields really are digit strings: every sliced range is made of ASCII digits, the integer part and (if a
    point was seen) the fractional part are non-empty, the exponent digits (if any) are non-empty.  A NaN payload may be
    empty (`nan()`); `fromParsed` tests `start < stop` and then needs digits to be there -/
def FieldsOK (txt : List Nat) : Parsed → Prop
  | .finite f => f.buf.ascii = txt ∧
      (match f.sig.point with
       | some pt =>
          AsciiDigits (slice txt ⟨f.sig.range.start, pt.start⟩) ∧ slice txt ⟨f.sig.range.start, pt.start⟩ ≠ [] ∧
          AsciiDigits (slice txt ⟨pt.stop, f.sig.range.stop⟩) ∧ slice txt ⟨pt.stop, f.sig.range.stop⟩ ≠ []
       | none => AsciiDigits (slice txt f.sig.range) ∧ slice txt f.sig.range ≠ []) ∧
      (∀ e, f.exp = some e → AsciiDigits (slice txt e.range) ∧ slice txt e.range ≠ [])
  | .infinity _ => True
  | .nan n => n.buf.ascii = txt ∧ ∀ s, n.payload = some s →
      AsciiDigits (slice txt s.range) ∧ (s.range.start < s.range.stop → slice txt s.range ≠ [])

theorem parseStr_fieldsGood {txt : List Nat} {p : Parsed} (h : parseStr txt = .ok p) : FieldsGood (asciiFields p) :=
  ADec.run_fieldsGood ((parseStr_fields txt).symm.trans (congrArg (Except.map asciiFields) h))

/-- the fields are the ranges sliced out of the buffer's text, which for a borrowed string is the input (`Tracks`) -/
theorem parseStr_fields_ascii (txt : List Nat) (p : Parsed) (h : parseStr txt = .ok p) : FieldsOK txt p := by
  have hG := parseStr_fieldsGood h
  obtain ⟨q, hI, hk, hf⟩ := runD_ok (invD_begin_str txt) rfl (parseStr_eq_runD txt ▸ h)
  rcases DecimalParser.finish_eq_ok hf with ⟨f, rfl, -, rfl⟩ | ⟨i, rfl, rfl⟩ | ⟨n, rfl, rfl⟩
  · obtain ⟨tb, ⟨sn, r, pt⟩, ex, _, _, _⟩ := f
    obtain rfl : tb.text = txt := (hI.2 hk).1
    obtain ⟨g1, g2, g3, g4⟩ := hG
    refine ⟨rfl, ?_, fun e he => g4 _ (congrArg (Option.map _) he)⟩
    cases pt with
    | none => exact ⟨g1, g2⟩
    | some pt => exact ⟨g1, g2, g3 _ rfl⟩
  · trivial
  · obtain rfl : n.buf.text = txt := (hI.2 hk).1
    exact ⟨rfl, fun s hs => (hG _ (congrArg (Option.map _) hs)).imp_right fun g hlt => g (decide_eq_true hlt)⟩

theorem numeralOf_eq_inf {p : Parsed} {s : Bool} (h : numeralOf p = .inf s) : p = .infinity s := by
  cases p with
  | finite f => simp only [numeralOf, numeralOfFinite] at h; split at h <;> cases h
  | infinity neg => cases h; rfl
  | nan n => cases h

theorem numeralOf_eq_nan {p : Parsed} {s g : Bool} {pl : Option (List Nat)} (h : numeralOf p = .nan s g pl) :
    ∃ tb payload, p = .nan ⟨tb, g, s, payload⟩ ∧ pl = payload.map fun r => digitVals (slice tb.ascii r.range) := by
  cases p with
  | finite f => simp only [numeralOf, numeralOfFinite] at h; split at h <;> cases h
  | infinity neg => cases h
  | nan n => cases h; exact ⟨_, _, rfl, rfl⟩

theorem numeralOf_eq_finite {p : Parsed} {s : Bool} {i fr : List Nat} {ex : Option (Bool × List Nat)}
    (h : numeralOf p = .finite s i fr ex) : ∃ f, p = .finite f ∧ numeralOfFinite f = .finite s i fr ex := by
  cases p with
  | finite f => exact ⟨f, rfl, h⟩
  | infinity neg => cases h
  | nan n => cases h

theorem parseStr_of_parse {txt : List Nat} {num : Numeral} (h : Spec.parse txt = some num) :
    ∃ p, parseStr txt = .ok p ∧ numeralOf p = num ∧ FieldsOK txt p := by
  obtain ⟨p, hp, hn⟩ := (parseStr_ok txt num).2 h
  exact ⟨p, hp, hn, parseStr_fields_ascii txt p hp⟩

end Decstr.Proofs

#print axioms Decstr.Proofs.parseStr_ok_iff
#print axioms Decstr.Proofs.parseStr_numeral
#print axioms Decstr.Proofs.parseStr_fields_ascii
#print axioms Decstr.Proofs.parseStr_error_kind
#print axioms Decstr.Proofs.parseStr_err_char
#print axioms Decstr.Proofs.parseStr_err_end
#print axioms Decstr.Proofs.C14_array_fits
