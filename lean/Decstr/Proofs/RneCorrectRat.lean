import Decstr.Proofs.RneCorrect
import Mathlib.Algebra.Order.Field.Rat
import Mathlib.Algebra.Order.Ring.Abs
import Mathlib.Algebra.Order.Ring.Cast
import Mathlib.Tactic.FieldSimp
import Mathlib.Tactic.Positivity
/-!
# Proofs.RneCorrectRat — the theorems of `Proofs.RneCorrect` restated over `ℚ`

`RneCorrect` states "nearest" by cross-multiplication (`err`, a natural number).  Here the same theorems are stated with
the value `valQ B bits = mantOf · 2^qexpOf : ℚ` (IEEE 754-2019 §3.4) and the ordinary distance `|num/den − valQ|`, so that
nothing about the cross-multiplication has to be trusted: `err_rat` is the bridge.
-/
namespace Decstr.Proofs.Rne
open Decstr.Spec

/-- the rational value of a finite non-negative pattern -/
def valQ (B : BinFmt) (bits : Nat) : ℚ := (mantOf B bits : ℚ) * (2 : ℚ) ^ (qexpOf B bits)

/-- in units of the smallest subnormal the value is the natural number `valN` -/
theorem valQ_eq (B : BinFmt) (hb : 2 ≤ B.ebits) (bits : Nat) : valQ B bits = (valN B bits : ℚ) / 2 ^ shiftOf B := by
  unfold valQ valN
  rw [eq_sub_of_add_eq (qexp_shift B hb bits), zpow_sub₀ (by norm_num), zpow_natCast, zpow_natCast]
  push_cast; ring

theorem scale_pos (B : BinFmt) (den : Nat) (hd : 0 < den) : (0 : ℚ) < (den : ℚ) * 2 ^ shiftOf B := by
  have hden : (0 : ℚ) < den := Nat.cast_pos.mpr hd
  positivity

/-- `err` is the distance between the rationals `num/den` and `valQ bits`, times the positive constant `den·2^shiftOf B` -/
theorem err_rat (B : BinFmt) (hb : 2 ≤ B.ebits) (num den bits : Nat) (hd : 0 < den) :
    ((err B num den bits : Nat) : ℚ) = |(num : ℚ) / den - valQ B bits| * (den * 2 ^ shiftOf B) := by
  rw [err_eq B hb, valQ_eq B hb]
  have hden : (0 : ℚ) < den := Nat.cast_pos.mpr hd
  rw [Nat.cast_natAbs, Int.cast_abs, ← abs_of_nonneg (scale_pos B den hd).le, ← abs_mul]
  congr 1
  push_cast
  field_simp

theorem err_le_iff (B : BinFmt) (hb : 2 ≤ B.ebits) (num den x y : Nat) (hd : 0 < den) :
    err B num den x ≤ err B num den y ↔ |(num : ℚ) / den - valQ B x| ≤ |(num : ℚ) / den - valQ B y| := by
  rw [← Nat.cast_le (α := ℚ), err_rat B hb _ _ _ hd, err_rat B hb _ _ _ hd]
  exact mul_le_mul_iff_of_pos_right (scale_pos B den hd)

theorem rneRat_nearest_rat (B : BinFmt) (hp : 1 ≤ B.prec) (hb : 2 ≤ B.ebits) (num den : Nat) (hn : 0 < num)
    (hd : 0 < den) (bits : Nat) (h : rneRat B num den = some bits) (b' : Nat) (hb' : b' < B.infBits) :
    |(num : ℚ) / den - valQ B bits| ≤ |(num : ℚ) / den - valQ B b'| :=
  (err_le_iff B hb num den bits b' hd).mp (rneRat_nearest B hp hb num den hn hd bits h b' hb')

theorem rneRat_tie_even_rat (B : BinFmt) (hp : 2 ≤ B.prec) (hb : 2 ≤ B.ebits) (num den : Nat) (hn : 0 < num)
    (hd : 0 < den) (bits : Nat) (h : rneRat B num den = some bits) (b' : Nat) (hb' : b' < B.infBits)
    (hne : b' ≠ bits) (he : |(num : ℚ) / den - valQ B b'| = |(num : ℚ) / den - valQ B bits|) : bits % 2 = 0 :=
  rneRat_tie_even B hp hb num den hn hd bits h b' hb' hne
    (Nat.le_antisymm ((err_le_iff B hb num den _ _ hd).mpr he.le) ((err_le_iff B hb num den _ _ hd).mpr he.ge))

/-- `rneRat_overflow` over `ℚ`: from `(2^prec − 1/2)·2^(emax − prec + 1)` on, `emax = 2^(ebits−1) − 1` -/
theorem rneRat_overflow_rat (B : BinFmt) (hp : 1 ≤ B.prec) (hb : 2 ≤ B.ebits) (num den : Nat) (hn : 0 < num)
    (hd : 0 < den) :
    rneRat B num den = none ↔
      ((2 : ℚ) ^ B.prec - 1 / 2) * (2 : ℚ) ^ (((2 ^ (B.ebits - 1) - 1 : Nat) : Int) - B.prec + 1) ≤ (num : ℚ) / den := by
  rw [rneRat_overflow B hp hb num den hn hd, ← Nat.cast_le (α := ℚ)]
  have hden : (0 : ℚ) < den := Nat.cast_pos.mpr hd
  have hP : (0 : ℚ) < 2 ^ B.prec := by positivity
  rw [zpow_add₀ two_ne_zero, zpow_sub₀ two_ne_zero, zpow_natCast, zpow_natCast, zpow_one, le_div_iff₀ hden]
  generalize (2 ^ (B.ebits - 1) - 1 : Nat) = emax
  push_cast [Nat.cast_sub (Nat.one_le_two_pow (n := B.prec + 1))]
  -- both sides are `den·(2^(prec+1) − 1)·2^emax / 2^prec`
  rw [← div_le_iff₀ hP]
  refine Iff.of_eq (congrArg (· ≤ _) ?_)
  rw [pow_succ]; ring

theorem rneRat_monotone_rat (B : BinFmt) (hp : 2 ≤ B.prec) (hb : 2 ≤ B.ebits) (a b c d : Nat) (ha : 0 < a)
    (hb0 : 0 < b) (hc : 0 < c) (hd : 0 < d) (h : (a : ℚ) / b ≤ (c : ℚ) / d) :
    optLe (rneRat B a b) (rneRat B c d) := by
  apply rneRat_monotone B hp hb a b c d ha hb0 hc hd
  have hb' : (0 : ℚ) < b := Nat.cast_pos.mpr hb0
  have hd' : (0 : ℚ) < d := Nat.cast_pos.mpr hd
  rw [div_le_div_iff₀ hb' hd'] at h
  exact_mod_cast h

/-- instances: `1/3` in binary32 (nearest), `2^24 + 1` (tie to even), `f32::MAX + ulp/2` (overflow) -/
example : ∀ b' < binary32.infBits, |(1 : ℚ) / 3 - valQ binary32 0x3eaaaaab| ≤ |(1 : ℚ) / 3 - valQ binary32 b'| := by
  intro b' h
  have := rneRat_nearest_rat binary32 (by decide) (by decide) 1 3 (by decide) (by decide) 0x3eaaaaab
    (by decide +kernel) b' h
  simpa using this
example : rneRat binary32 ((2 ^ 25 - 1) * 2 ^ 103) 1 = none :=
  (rneRat_overflow_rat binary32 (by decide) (by decide) _ 1 (by decide) (by decide)).mpr (by
    have : ((2 ^ (binary32.ebits - 1) - 1 : Nat) : Int) - binary32.prec + 1 = 104 := by decide
    rw [this]
    norm_num [binary32])

theorem valQ_strictMono (B : BinFmt) (hb : 2 ≤ B.ebits) {b1 b2 : Nat} (h : b1 < b2) : valQ B b1 < valQ B b2 := by
  rw [valQ_eq B hb, valQ_eq B hb]
  have hS : (0 : ℚ) < 2 ^ shiftOf B := by positivity
  exact div_lt_div_of_pos_right (by exact_mod_cast val_strictMono B h) hS

/-- sanity: binary32 `0x3f800000 = 1`, `0x00000001 = 2^-149`, `0x7f7fffff = (2^24 − 1)·2^104`; binary64 `0x3ff8… = 1.5` -/
example : valQ binary32 0x3f800000 = 1 ∧ valQ binary32 0x00000001 = 1 / 2 ^ 149 ∧
    valQ binary32 0x7f7fffff = (2 ^ 24 - 1) * 2 ^ 104 ∧ valQ binary64 0x3ff8000000000000 = 3 / 2 := by
  have a1 : mantOf binary32 0x3f800000 = 2 ^ 23 ∧ qexpOf binary32 0x3f800000 = -23 := by decide
  have a2 : mantOf binary32 0x00000001 = 1 ∧ qexpOf binary32 0x00000001 = -149 := by decide
  have a3 : mantOf binary32 0x7f7fffff = 2 ^ 24 - 1 ∧ qexpOf binary32 0x7f7fffff = 104 := by decide
  have a4 : mantOf binary64 0x3ff8000000000000 = 3 * 2 ^ 51 ∧ qexpOf binary64 0x3ff8000000000000 = -52 := by
    decide +kernel
  unfold valQ
  rw [a1.1, a1.2, a2.1, a2.2, a3.1, a3.2, a4.1, a4.2]
  norm_num [zpow_neg]

end Decstr.Proofs.Rne

#print axioms Decstr.Proofs.Rne.err_rat
#print axioms Decstr.Proofs.Rne.rneRat_nearest_rat
#print axioms Decstr.Proofs.Rne.rneRat_tie_even_rat
#print axioms Decstr.Proofs.Rne.rneRat_overflow_rat
#print axioms Decstr.Proofs.Rne.rneRat_monotone_rat
#print axioms Decstr.Proofs.Rne.valQ_strictMono
