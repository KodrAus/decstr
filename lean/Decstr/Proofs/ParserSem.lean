import Decstr.Proofs.Basic
/-!
# Proofs.ParserSem — a semantic parser: the model's state machines with digit lists instead of ranges

`Sem` mirrors `DecimalParser` / `FiniteParser` / `InfinityParser` / `NanParser` of `Model/Text.lean` byte for byte, but
its state carries the digit *values* seen so far instead of ranges into a buffer.  Arms of the sub-parsers that only
fire in their start state (a sign, and the `n`/`s` that `NanParser` takes itself) are left out, since `DecimalParser`
has taken the first byte (`ParserRefine`: those arms are dead on `Live` states); the `)` arm of `NanParser.step` does what
its keyword arm does and is folded into it.
-/
namespace Decstr.Proofs
open Decstr.Model Decstr.Spec

/-- `FiniteParser` with digit lists -/
structure SFin where
  neg : Bool := false
  int : List Nat := []
  frac : List Nat := []
  exp : Option (Bool × List Nat) := none
  hasSign : Bool := false
  hasDecimal : Bool := false
  hasDigits : Bool := false
deriving Repr, DecidableEq

def SFin.step (s : SFin) (c : Nat) : Option SFin :=
  match s.exp with
  | none =>
    if isDigit c then
      some (if s.hasDecimal then { s with frac := s.frac ++ [c - 48], hasDigits := true }
            else { s with int := s.int ++ [c - 48], hasDigits := true })
    else if c = 46 && !s.hasDecimal then some { s with hasDecimal := true, hasDigits := false }
    else if (c = 101 || c = 69) && s.hasDigits then
      some { s with exp := some (false, []), hasSign := false, hasDigits := false }
    else none
  | some (en, ed) =>
    if isDigit c then some { s with exp := some (en, ed ++ [c - 48]), hasDigits := true }
    else if c = 45 && !s.hasSign && !s.hasDigits then some { s with exp := some (true, ed), hasSign := true }
    else if c = 43 && !s.hasSign && !s.hasDigits then some { s with exp := some (false, ed), hasSign := true }
    else none

def SFin.finish (s : SFin) : Option Numeral :=
  if s.hasDigits then some (.finite s.neg s.int s.frac s.exp) else none

/-- `InfinityParser` -/
structure SInf where
  expecting : List Nat
  neg : Bool
deriving Repr, DecidableEq

def SInf.step (s : SInf) (c : Nat) : Option SInf :=
  match s.expecting with
  | e :: es => if eqIgnoreCase e c then some { s with expecting := es } else none
  | [] => none

def SInf.finish (s : SInf) : Option Numeral :=
  if s.expecting = [] || s.expecting = kwInfinity.drop 3 then some (.inf s.neg) else none

/-- `NanParser` -/
structure SNan where
  expecting : List Nat
  signaling : Bool
  neg : Bool
  payload : Option (List Nat)
deriving Repr, DecidableEq

def SNan.isExpecting (s : SNan) (c : Nat) : Bool :=
  match s.expecting with
  | e :: _ => eqIgnoreCase e c
  | [] => false

/-- `NanParser.step` without its four start-state arms, the `)` arm folded into the keyword arm -/
def SNan.step (s : SNan) (c : Nat) : Option SNan :=
  if isDigit c && s.payload.isSome && s.isExpecting 41 then
    some { s with payload := s.payload.map (· ++ [c - 48]) }
  else if c = 40 && s.isExpecting 40 then some { s with expecting := s.expecting.drop 1, payload := some [] }
  else if s.isExpecting c then some { s with expecting := s.expecting.drop 1 }
  else none

def SNan.finish (s : SNan) : Option Numeral :=
  match s.expecting, s.payload with
  | [], some ds => some (.nan s.neg s.signaling (some ds))
  | [40, 41], none => some (.nan s.neg s.signaling none)
  | _, _ => none

/-- `DecimalParser` -/
inductive Sem where
  | start (neg : Option Bool)
  | fin (s : SFin)
  | inf (s : SInf)
  | nan (s : SNan)
deriving Repr, DecidableEq

def Sem.step : Sem → Nat → Option Sem
  | .start neg, c =>
    if isDigit c then
      some (.fin { neg := neg.getD false, int := [c - 48], hasSign := neg.isSome, hasDigits := true })
    else if c = 45 && neg.isNone then some (.start (some true))
    else if c = 43 && neg.isNone then some (.start (some false))
    else if c = 115 || c = 83 then some (.nan ⟨kwSnan.drop 1, true, neg.getD false, none⟩)
    else if c = 110 || c = 78 then some (.nan ⟨kwSnan.drop 2, false, neg.getD false, none⟩)
    else if c = 105 || c = 73 then some (.inf ⟨kwInfinity.drop 1, neg.getD false⟩)
    else none
  | .fin s, c => (s.step c).map .fin
  | .inf s, c => (s.step c).map .inf
  | .nan s, c => (s.step c).map .nan

def Sem.finish : Sem → Option Numeral
  | .start _ => none
  | .fin s => s.finish
  | .inf s => s.finish
  | .nan s => s.finish

/-- run over a text; an unexpected byte is reported like the model does -/
def Sem.run (s : Sem) : List Nat → Except ParseErr Sem
  | [] => .ok s
  | c :: cs => match s.step c with
    | some s' => s'.run cs
    | none => .error (.char c)

/-- the verdict at the end of the text, as the model reports it -/
def Sem.finishE (s : Sem) : Except ParseErr Numeral :=
  match s.finish with
  | some n => .ok n
  | none => .error .endOfInput

def semParseE (txt : List Nat) : Except ParseErr Numeral :=
  match (Sem.start none).run txt with
  | .ok s => s.finishE
  | .error e => .error e

/-- the same run answering in `Option`, as `Spec.parse` does (`ParserSpec`); `Sem.run` keeps the offending byte, which
    `ParserErr` needs (`Sem.accept_eq_run`) -/
def Sem.accept (s : Sem) : List Nat → Option Numeral
  | [] => s.finish
  | c :: cs => (s.step c).bind (·.accept cs)

def semParse (txt : List Nat) : Option Numeral := (Sem.start none).accept txt

theorem Sem.accept_eq_run (s : Sem) (cs : List Nat) :
    s.accept cs = match s.run cs with | .ok s' => s'.finish | .error _ => none := by
  induction cs generalizing s with
  | nil => rfl
  | cons c cs ih =>
    simp only [Sem.accept, Sem.run]
    cases h : s.step c with
    | none => rfl
    | some s' => simp only [Option.bind_some]; exact ih s'

def SInf.accept (s : SInf) : List Nat → Option Numeral
  | [] => s.finish
  | c :: cs => (s.step c).bind (·.accept cs)

def SNan.accept (s : SNan) : List Nat → Option Numeral
  | [] => s.finish
  | c :: cs => (s.step c).bind (·.accept cs)

theorem Sem.accept_inf (s : SInf) (cs : List Nat) : (Sem.inf s).accept cs = s.accept cs := by
  induction cs generalizing s with
  | nil => rfl
  | cons c cs ih =>
    simp only [Sem.accept, SInf.accept, Sem.step]
    cases s.step c with
    | none => rfl
    | some s' => simpa using ih s'

theorem Sem.accept_nan (s : SNan) (cs : List Nat) : (Sem.nan s).accept cs = s.accept cs := by
  induction cs generalizing s with
  | nil => rfl
  | cons c cs ih =>
    simp only [Sem.accept, SNan.accept, Sem.step]
    cases s.step c with
    | none => rfl
    | some s' => simpa using ih s'

end Decstr.Proofs
