import Decstr.Proofs.Basic
/-!
# Proofs.Digits — digit strings and their values

`ofDigits` (digit values, most significant first), `AsciiDigits` / `digitVals` / `valOf` (ASCII digit strings) under
`++`, `::`, `take`, `drop`, `replicate`, leading zeros, and the bound `valOf ds < 10 ^ ds.length`.
Everything that reasons about written digits goes through these.
-/
namespace Decstr.Proofs
open Decstr.Model Decstr.Spec

theorem foldl_ofDigits (ds : List Nat) (a : Nat) :
    ds.foldl (fun a d => 10 * a + d) a = a * 10 ^ ds.length + ofDigits ds := by
  induction ds generalizing a with
  | nil => simp [ofDigits]
  | cons d ds ih =>
    simp only [ofDigits, List.foldl_cons, List.length_cons]
    rw [ih (10 * a + d), ih (10 * 0 + d)]
    simp only [Nat.mul_zero, Nat.zero_add, Nat.pow_succ]
    rw [Nat.add_mul, Nat.add_assoc]
    congr 1
    rw [Nat.mul_comm 10 a, Nat.mul_assoc, Nat.mul_comm 10]

@[simp] theorem ofDigits_nil : ofDigits [] = 0 := rfl

theorem ofDigits_cons (d : Nat) (ds : List Nat) : ofDigits (d :: ds) = d * 10 ^ ds.length + ofDigits ds := by
  have := foldl_ofDigits ds (10 * 0 + d)
  simp only [Nat.mul_zero, Nat.zero_add] at this
  simpa [ofDigits] using this

theorem ofDigits_append (a b : List Nat) : ofDigits (a ++ b) = ofDigits a * 10 ^ b.length + ofDigits b := by
  unfold ofDigits
  rw [List.foldl_append, foldl_ofDigits]
  rfl

@[simp] theorem ofDigits_singleton (d : Nat) : ofDigits [d] = d := by simp [ofDigits]

theorem ofDigits_replicate_zero (k : Nat) : ofDigits (List.replicate k 0) = 0 := by
  induction k with
  | zero => rfl
  | succ k ih => rw [List.replicate_succ, ofDigits_cons, ih]; simp

theorem ofDigits_replicate_zero_append (k : Nat) (ds : List Nat) :
    ofDigits (List.replicate k 0 ++ ds) = ofDigits ds := by
  rw [ofDigits_append, ofDigits_replicate_zero]; simp

theorem ofDigits_zero_cons (ds : List Nat) : ofDigits (0 :: ds) = ofDigits ds := by
  rw [ofDigits_cons]; simp

theorem ofDigits_lt (ds : List Nat) (h : ∀ d ∈ ds, d ≤ 9) : ofDigits ds < 10 ^ ds.length := by
  induction ds with
  | nil => simp
  | cons d ds ih =>
    have hd : d ≤ 9 := h d (by simp)
    have := ih (fun x hx => h x (by simp [hx]))
    rw [ofDigits_cons, List.length_cons, Nat.pow_succ]
    have : d * 10 ^ ds.length ≤ 9 * 10 ^ ds.length := Nat.mul_le_mul_right _ hd
    omega

@[simp] theorem asciiDigits_nil : AsciiDigits [] := by intro d h; cases h

theorem asciiDigits_cons {d : Nat} {ds : List Nat} : AsciiDigits (d :: ds) ↔ (48 ≤ d ∧ d ≤ 57) ∧ AsciiDigits ds := by
  simp [AsciiDigits]

theorem asciiDigits_append {a b : List Nat} : AsciiDigits (a ++ b) ↔ AsciiDigits a ∧ AsciiDigits b := by
  simp only [AsciiDigits, List.mem_append]
  constructor
  · intro h; exact ⟨fun d hd => h d (Or.inl hd), fun d hd => h d (Or.inr hd)⟩
  · rintro ⟨h1, h2⟩ d (hd | hd)
    · exact h1 d hd
    · exact h2 d hd

theorem asciiDigits_zero : AsciiDigits [48] := by intro d hd; simp at hd; omega

theorem asciiDigits_replicate_zero (k : Nat) : AsciiDigits (List.replicate k 48) := by
  intro d hd; rw [List.mem_replicate] at hd; omega

theorem AsciiDigits.sublist {a b : List Nat} (h : AsciiDigits b) (hs : a.Sublist b) : AsciiDigits a :=
  fun d hd => h d (hs.subset hd)

theorem AsciiDigits.take {ds : List Nat} (h : AsciiDigits ds) (k : Nat) : AsciiDigits (ds.take k) :=
  h.sublist (List.take_sublist k ds)

theorem AsciiDigits.drop {ds : List Nat} (h : AsciiDigits ds) (k : Nat) : AsciiDigits (ds.drop k) :=
  h.sublist (List.drop_sublist k ds)

theorem AsciiDigits.dropWhile {ds : List Nat} (h : AsciiDigits ds) (p : Nat → Bool) : AsciiDigits (ds.dropWhile p) :=
  h.sublist (List.dropWhile_sublist p)

theorem asciiDigits_flatten {dss : List (List Nat)} (h : ∀ d ∈ dss, AsciiDigits d) : AsciiDigits dss.flatten := by
  intro x hx
  rw [List.mem_flatten] at hx
  obtain ⟨l, hl, hxl⟩ := hx
  exact h l hl x hxl

theorem flatten_length_three (dl : List (List Nat)) (h : ∀ d ∈ dl, d.length = 3) : dl.flatten.length = 3 * dl.length := by
  induction dl with
  | nil => rfl
  | cons d dl ih =>
    have h1 := h d (by simp)
    have h2 := ih (fun x hx => h x (by simp [hx]))
    simp only [List.flatten_cons, List.length_append, List.length_cons, h1, h2]
    omega

/-- the decoded digits of a width-`32n` decimal: the most significant digit and `3n−1` declets of three
    ASCII digits each -/
structure DigitsOK (n : Nat) (msd : Nat) (declets : List (List Nat)) : Prop where
  pos : 0 < n
  msd : 48 ≤ msd ∧ msd ≤ 57
  len : declets.length = 3 * n - 1
  each : ∀ d ∈ declets, d.length = 3 ∧ AsciiDigits d

theorem DigitsOK.three {n msd : Nat} {declets : List (List Nat)} (h : DigitsOK n msd declets) :
    ∀ d ∈ declets, d.length = 3 := fun d hd => (h.each d hd).1

theorem DigitsOK.flatten_length {n msd : Nat} {declets : List (List Nat)} (h : DigitsOK n msd declets) :
    declets.flatten.length = 3 * (3 * n - 1) := by rw [flatten_length_three _ h.three, h.len]

theorem DigitsOK.ascii {n msd : Nat} {declets : List (List Nat)} (h : DigitsOK n msd declets) :
    AsciiDigits (msd :: declets.flatten) :=
  asciiDigits_cons.mpr ⟨h.msd, asciiDigits_flatten (fun d hd => (h.each d hd).2)⟩

@[simp] theorem digitVals_nil : digitVals [] = [] := rfl
@[simp] theorem digitVals_cons (d : Nat) (ds : List Nat) : digitVals (d :: ds) = (d - 48) :: digitVals ds := rfl
@[simp] theorem digitVals_append (a b : List Nat) : digitVals (a ++ b) = digitVals a ++ digitVals b := by
  simp [digitVals]
@[simp] theorem digitVals_length (a : List Nat) : (digitVals a).length = a.length := by simp [digitVals]
theorem digitVals_replicate_zero (k : Nat) : digitVals (List.replicate k 48) = List.replicate k 0 := by
  simp [digitVals]
theorem digitVals_eq_nil {a : List Nat} : digitVals a = [] ↔ a = [] := by simp [digitVals]
theorem digitVals_take (a : List Nat) (k : Nat) : digitVals (a.take k) = (digitVals a).take k := by
  simp [digitVals, List.map_take]
theorem digitVals_drop (a : List Nat) (k : Nat) : digitVals (a.drop k) = (digitVals a).drop k := by
  simp [digitVals, List.map_drop]

theorem digitVals_le {ds : List Nat} (h : AsciiDigits ds) : ∀ d ∈ digitVals ds, d ≤ 9 := by
  intro d hd
  simp only [digitVals, List.mem_map] at hd
  obtain ⟨c, hc, rfl⟩ := hd
  have := h c hc
  omega

@[simp] theorem valOf_nil : valOf [] = 0 := rfl

theorem valOf_append (a b : List Nat) : valOf (a ++ b) = valOf a * 10 ^ b.length + valOf b := by
  simp [valOf, ofDigits_append]

theorem valOf_cons (d : Nat) (ds : List Nat) : valOf (d :: ds) = (d - 48) * 10 ^ ds.length + valOf ds := by
  simp [valOf, ofDigits_cons]

theorem valOf_zero_cons (ds : List Nat) : valOf (48 :: ds) = valOf ds := by
  simp [valOf_cons]

theorem valOf_replicate_zero (k : Nat) : valOf (List.replicate k 48) = 0 := by
  simp [valOf, digitVals_replicate_zero, ofDigits_replicate_zero]

theorem valOf_replicate_zero_append (k : Nat) (ds : List Nat) : valOf (List.replicate k 48 ++ ds) = valOf ds := by
  simp [valOf, digitVals_replicate_zero, ofDigits_replicate_zero_append]

theorem valOf_replicate_nine (m : Nat) : valOf (List.replicate m 57) + 1 = 10 ^ m := by
  induction m with
  | zero => rfl
  | succ m ih =>
    rw [List.replicate_succ, valOf_cons, List.length_replicate, Nat.pow_succ]
    show 9 * 10 ^ m + _ + 1 = _
    omega

theorem valOf_dropWhile_zero (ds : List Nat) : valOf (ds.dropWhile (· == 48)) = valOf ds := by
  induction ds with
  | nil => rfl
  | cons d ds ih =>
    by_cases h : d = 48
    · subst h; simp only [List.dropWhile_cons, beq_self_eq_true, if_true]; rw [ih, valOf_zero_cons]
    · have : (d == 48) = false := by simp [h]
      simp [this]

theorem valOf_lt {ds : List Nat} (h : AsciiDigits ds) : valOf ds < 10 ^ ds.length := by
  have := ofDigits_lt (digitVals ds) (digitVals_le h)
  simpa [valOf] using this

theorem valOf_lt_of_le {ds : List Nat} (h : AsciiDigits ds) {p : Nat} (hp : ds.length ≤ p) : valOf ds < 10 ^ p :=
  Nat.lt_of_lt_of_le (valOf_lt h) (Nat.pow_le_pow_right (by decide) hp)

theorem valOf_lt_thousands {ds : List Nat} (h : AsciiDigits ds) {k : Nat} (hk : ds.length ≤ 3 * k) : valOf ds < 1000 ^ k := by
  rw [show 1000 = 10 ^ 3 from rfl, ← Nat.pow_mul]
  exact valOf_lt_of_le h hk

/-- cutting a digit string `k` places from the end divides its value by `10^k`, with the cut-off digits as remainder -/
theorem valOf_split {ds : List Nat} (h : AsciiDigits ds) (k : Nat) (hk : k ≤ ds.length) :
    valOf ds / 10 ^ k = valOf (ds.take (ds.length - k)) ∧ valOf ds % 10 ^ k = valOf (ds.drop (ds.length - k)) := by
  have hsplit := valOf_append (ds.take (ds.length - k)) (ds.drop (ds.length - k))
  have hlt := valOf_lt (h.drop (ds.length - k))
  have hdl : (ds.drop (ds.length - k)).length = k := by rw [List.length_drop]; omega
  rw [List.take_append_drop] at hsplit
  rw [hdl] at hsplit hlt
  rw [hsplit, Nat.mul_comm]
  exact ⟨by rw [Nat.mul_add_div (Nat.pow_pos (by decide)), Nat.div_eq_of_lt hlt, Nat.add_zero],
    by rw [Nat.mul_add_mod, Nat.mod_eq_of_lt hlt]⟩

theorem valOf_snoc (l : List Nat) (d : Nat) : valOf (l ++ [d]) = valOf l * 10 + (d - 48) := by
  rw [valOf_append]
  simp [valOf, digitVals, ofDigits]

theorem valOf_pos_of_head {S : List Nat} (hS : AsciiDigits S) (hne : S ≠ []) (hh : S.head? ≠ some 48) : 0 < valOf S := by
  cases S with
  | nil => exact absurd rfl hne
  | cons a l =>
    have ha := (asciiDigits_cons.1 hS).1
    have h48 : a ≠ 48 := by intro e; subst e; exact hh rfl
    rw [valOf_cons]
    have h1 : 1 ≤ a - 48 := by omega
    have h2 : 0 < 10 ^ l.length := Nat.pow_pos (by decide)
    have : 1 * 10 ^ l.length ≤ (a - 48) * 10 ^ l.length := Nat.mul_le_mul_right _ h1
    omega

theorem dropWhile_zero_head (l : List Nat) : (l.dropWhile (· == 48)).head? ≠ some 48 := by
  induction l with
  | nil => simp
  | cons a l ih =>
    by_cases h : a = 48
    · subst h; simpa [List.dropWhile_cons] using ih
    · have : (a == 48) = false := by simp [h]
      simp [this, h]

theorem all_zero_iff (ds : List Nat) (h : AsciiDigits ds) : ds.all (· == 48) = true ↔ valOf ds = 0 := by
  induction ds with
  | nil => simp
  | cons d ds ih =>
    obtain ⟨hd, ht⟩ := asciiDigits_cons.mp h
    have hp : 0 < 10 ^ ds.length := Nat.pow_pos (by decide)
    rw [valOf_cons, List.all_cons, Bool.and_eq_true, ih ht, beq_iff_eq, Nat.add_eq_zero_iff, Nat.mul_eq_zero]
    constructor
    · rintro ⟨rfl, h2⟩; exact ⟨Or.inl rfl, h2⟩
    · rintro ⟨h1 | h1, h2⟩ <;> exact ⟨by omega, h2⟩

theorem valOf_eq_zero_of_dropWhile_nil (ds : List Nat) (h : ds.dropWhile (· == 48) = []) : valOf ds = 0 := by
  rw [← valOf_dropWhile_zero, h]; rfl

end Decstr.Proofs
