import Decstr.Proofs.ExecFmt
import Decstr.Proofs.ExecLazyRefine
import Decstr.Props.C05
/-!
# Proofs.ExecDecodeApi — the public operations that read a decimal: classification, decimal → integer,
decimal → binary float (`decimal_to_fmt` is in ExecFmt).  For the two conversions: on a well-formed buffer the eager
functions of ExecLazyRefine read what the pure model reads and then work on ASCII digits; the lazy functions of the
checked model return what the eager ones return.
-/
namespace Decstr.Proofs.Exec
open Decstr.Model Decstr.Model.Exec Decstr.Spec

theorem classifyC_eq {c : Bool} {b : Buf} (h : 0 < b.len) : classifyC c b = .ok (classify b) := by
  unfold classifyC classify
  rw [isSignNegativeC_eq h, bind_ok, isFiniteC_eq h, bind_ok, isInfiniteC_eq h, bind_ok,
    isNanC_eq h, bind_ok, isQuietNanC_eq h, bind_ok, isSignalingNanC_eq h, bind_ok]

/-- the eager arms of `decimal_to_int` are the pure arms, arm by arm: ASCII digits cannot underflow `b - b'0'`, and the
    fourth arm is entered with `|exponent| < precision` -/
theorem Eager.toIntCoreC_eq {T : Ty} {c : Bool} {I : IntTy} {neg : Bool} {ds : List Nat} (hds : ∀ d ∈ ds, 48 ≤ d)
    {exponent : Int} {p : Nat} {fin : Bool} :
    Eager.toIntCoreC T c I neg ds exponent p fin = .ok (toIntCore T I neg ds exponent p fin) := by
  unfold Eager.toIntCoreC toIntCore
  dsimp only
  refine ok_ite (fun _ => rfl) fun _ => ok_ite (fun _ => intFromAsciiC_eq hds 0) fun _ =>
    ok_ite (fun _ => ?_) fun _ => ok_ite (fun h4 => ?_) fun _ => ok_ite (fun _ => intFromAsciiC_eq (by simp) 0) fun _ => rfl
  -- left over: the arms `exponent > 0` and `|exponent| < precision`
  · rw [intFromAsciiC_eq hds 0]
    cases intFromAscii I neg ds 0 <;> rfl
  · have hlt : exponent.natAbs < p := by simp only [Bool.and_eq_true, decide_eq_true_eq] at h4; exact h4.2
    rw [subUsize_ok (Nat.le_of_lt hlt)]
    dsimp only
    rw [intFromAsciiC_eq (fun d hd => hds d (List.mem_of_mem_take hd)) 0]
    cases intFromAscii I neg (ds.take (p - exponent.natAbs)) 0 <;> rfl

theorem Eager.toIntC_eq {T : Ty} {c : Bool} {b : Buf} {n : Nat} (h : WF b n) (hT : T.expIsI32 = true → n ≤ 5) (I : IntTy) :
    Eager.toIntC T c b I = .ok (toInt T b I) := by
  have hlen := h.len_pos
  unfold Eager.toIntC toInt
  rw [decodeCombinationFiniteC_eq h (expRep_le hT), bind_ok, bcdToAsciiC_eq ((unbiasedExponent_msd_le h).trans (by decide)), bind_ok,
    decodeDecletsC_eq h.pos h.len, bind_ok, isSignNegativeC_eq hlen, bind_ok, precisionC_eq h.pos h.len, bind_ok,
    isFiniteC_eq hlen, bind_ok]
  exact Eager.toIntCoreC_eq fun d hd => ((Decstr.Proofs.digitsOK h).ascii d hd).1

theorem toIntC_eq {T : Ty} {c : Bool} {b : Buf} {n : Nat} (h : WF b n) (hT : T.expIsI32 = true → n ≤ 5) (I : IntTy) :
    toIntC T c b I = .ok (toInt T b I) :=
  toIntC_refines T c b I _ (Eager.toIntC_eq h hT I)

/-- appending to the 25-byte scratch text of `num.rs::parse_ascii`: refused when the result would not fit.  Every checked
    store below is this, and so is the pure `floatText` (`floatText_capAppend`). -/
def capAppend (text ds : List Nat) : Option (List Nat) :=
  if text.length + ds.length ≤ scratchCap then some (text ++ ds) else none

theorem capAppend_some {t a u : List Nat} (h : capAppend t a = some u) : u = t ++ a ∧ u.length ≤ scratchCap := by
  unfold capAppend at h
  split at h
  · cases h; exact ⟨rfl, by rw [List.length_append]; assumption⟩
  · cases h

theorem capAppend_bind (t a b : List Nat) : (capAppend t a).bind (capAppend · b) = capAppend t (a ++ b) := by
  unfold capAppend
  by_cases h : t.length + a.length ≤ scratchCap
  · simp only [if_pos h, Option.bind_some, List.length_append, List.append_assoc, Nat.add_assoc]
  · rw [if_neg h, if_neg (by rw [List.length_append]; omega)]; rfl

/-- a bounded append followed by a checked continuation `k` that is a bounded append is one bounded append -/
theorem capAppend_then {t a b : List Nat} {k : List Nat → Chk (Option (List Nat))}
    (hk : ∀ u, u.length ≤ scratchCap → k u = .ok (capAppend u b)) :
    (match capAppend t a with
      | none => (.ok none : Chk (Option (List Nat)))
      | some u => k u) = .ok (capAppend t (a ++ b)) := by
  rw [← capAppend_bind]
  cases h : capAppend t a with
  | none => rfl
  | some u => exact hk u (capAppend_some h).2

theorem fpushC_eq {c : Bool} {site : String} {text : List Nat} {x : Nat} (h : text.length ≤ scratchCap) :
    fpushC c site text x = .ok (capAppend text [x]) := by
  unfold fpushC capAppend
  rw [subUsize_ok h, bind_ok]
  by_cases hlt : text.length < scratchCap
  · rw [if_neg (Nat.sub_ne_zero_of_lt hlt), req_pos hlt, bind_ok, if_pos (by exact hlt)]
  · rw [if_pos (Nat.sub_eq_zero_of_le (Nat.le_of_not_lt hlt)), if_neg (by exact hlt)]

theorem fpushAllC_eq {c : Bool} {site : String} {text ds : List Nat} (h : text.length ≤ scratchCap) :
    fpushAllC c site text ds = .ok (capAppend text ds) := by
  induction ds generalizing text with
  | nil => simp [fpushAllC, capAppend, h]
  | cons d ds ih =>
    unfold fpushAllC
    rw [fpushC_eq h, show d :: ds = [d] ++ ds from rfl, ← capAppend_bind]
    cases hq : capAppend text [d] with
    | none => rfl
    | some u => exact ih (capAppend_some hq).2

theorem fstoreAllC_eq {site : String} {text ds : List Nat} (h : text.length + ds.length ≤ scratchCap) :
    fstoreAllC site text ds = .ok (text ++ ds) := by
  induction ds generalizing text with
  | nil => simp [fstoreAllC]
  | cons d ds ih =>
    unfold fstoreAllC
    simp only [List.length_cons] at h
    rw [req_pos (by omega)]
    dsimp only
    rw [ih (by rw [List.length_append, List.length_singleton]; omega), List.append_assoc]
    rfl

theorem ffragC_eq {c : Bool} {text frag : List Nat} (h : text.length ≤ scratchCap) :
    ffragC c text frag = .ok (capAppend text frag) := by
  unfold ffragC capAppend
  rw [subUsize_ok h, bind_ok]
  by_cases hlt : scratchCap - text.length < frag.length
  · rw [if_pos hlt, if_neg (by omega)]
  · have hfit : text.length + frag.length ≤ scratchCap := by omega
    rw [if_neg hlt, fstoreAllC_eq hfit, bind_ok, if_pos hfit]

/-- the exponent part: `e`, then the exponent's `Display`, sign and digits as separate writes -/
theorem floatExpC_eq {c : Bool} {t : List Nat} {exponent : Int} (h : t.length ≤ scratchCap) :
    floatExpC c t exponent = .ok (capAppend t ([101] ++ intToAscii exponent)) := by
  unfold floatExpC
  rw [fpushC_eq h, bind_ok, intToAscii]
  refine capAppend_then fun u hu => ?_
  have h2 : (if exponent < 0 then ffragC c u [45] else .ok (some u)) =
      .ok (capAppend u (if exponent < 0 then [45] else [])) := by
    split
    · exact ffragC_eq hu
    · simp [capAppend, hu]
  rw [h2, bind_ok]
  exact capAppend_then fun v hv => ffragC_eq hv

/-- the pure scratch text is one bounded append (from the closed form `Proofs.floatText_eq`): the test before `e` is
    implied by the one after the exponent -/
theorem floatText_capAppend (neg : Bool) (digits : List Nat) (exponent : Int) :
    floatText neg digits exponent =
      capAppend [] ((if neg = true then [45] else []) ++
        (if (digits.dropWhile (· == 48)).isEmpty = true then [48] else digits.dropWhile (· == 48)) ++
        ([101] ++ intToAscii exponent)) := by
  have hs : (if neg = true then [45] else []).length = if neg = true then 1 else 0 := signText_length neg
  rw [floatText_eq, capAppend]
  simp only [List.length_nil, List.length_append, List.length_cons, List.nil_append, List.append_assoc, scratchCap,
    sigText, intToAscii, hs]
  exact if_congr (by omega) rfl rfl

/-- the scratch text of `num.rs::parse_ascii`: every store into the 25-byte array is preceded by a capacity test -/
theorem floatTextC_eq {c : Bool} (neg : Bool) (digits : List Nat) (exponent : Int) :
    floatTextC c neg digits exponent = .ok (floatText neg digits exponent) := by
  have h1 : (if neg = true then fpushC c "text/buf/array.rs:72 self.buf[self.len] = b'-'" [] 45 else .ok (some []))
      = .ok (capAppend [] (if neg = true then [45] else [])) := by
    cases neg with
    | false => rfl
    | true => exact fpushC_eq (Nat.zero_le _)
  unfold floatTextC
  rw [h1, bind_ok, floatText_capAppend, List.append_assoc]
  refine capAppend_then fun t ht => ?_
  dsimp only
  rw [fpushAllC_eq ht, bind_ok]
  exact capAppend_then fun u hu => floatExpC_eq hu

theorem Eager.toFloatC_eq {T : Ty} {c : Bool} {b : Buf} {n : Nat} (h : WF b n) (hT : T.expIsI32 = true → n ≤ 5) (B : BinFmt) :
    Eager.toFloatC T c b B = .ok (toFloat b B) := by
  have hn := h.pos
  have hl := h.len
  have hlen := h.len_pos
  unfold Eager.toFloatC toFloat
  rw [isFiniteC_eq hlen, bind_ok, isSignNegativeC_eq hlen, bind_ok]
  refine ok_ite (fun _ => ?_) fun hfin => ?_
  · rw [decodeCombinationFiniteC_eq h (expRep_le hT), bind_ok, bcdToAsciiC_eq ((unbiasedExponent_msd_le h).trans (by decide)), bind_ok,
      decodeDecletsC_eq hn hl, bind_ok, floatTextC_eq, bind_ok]
    rfl
  · rw [isInfiniteC_eq hlen, bind_ok]
    refine ok_ite (fun _ => rfl) fun hinf => ?_
    rw [isNanC_eq hlen, bind_ok, dbg_pos (isNan_of_not_finite_infinite hfin hinf), bind_ok, decodeDecletsC_eq hn hl, bind_ok,
      intFromAsciiC_eq (fun d hd => (decodeDeclets_flatten_ascii b n h d hd).1) 0, bind_ok,
      isSignalingNanC_eq hlen, bind_ok]

theorem toFloatC_eq {T : Ty} {c : Bool} {b : Buf} {n : Nat} (h : WF b n) (hT : T.expIsI32 = true → n ≤ 5) (B : BinFmt) :
    toFloatC T c b B = .ok (toFloat b B) :=
  toFloatC_refines T c b B _ (Eager.toFloatC_eq h hT B)

/-- **`Bitstring32::to_f64`** (the infallible one): the `expect` is unreachable -/
theorem toFloatInfallibleC_b32 (c : Bool) {b : Buf} (h : WF b 1) :
    ∃ bits, toFloatInfallibleC .b32 c b binary64 = .ok bits ∧ toFloat b binary64 = some bits := by
  obtain ⟨bits, hb⟩ := Props.C05.C05_b32_to_f64 b h
  refine ⟨bits, ?_, hb⟩
  unfold toFloatInfallibleC
  rw [toFloatC_eq h (fun _ => by decide), bind_ok, hb]

end Decstr.Proofs.Exec

#print axioms Decstr.Proofs.Exec.classifyC_eq
#print axioms Decstr.Proofs.Exec.toIntC_eq
#print axioms Decstr.Proofs.Exec.toFloatC_eq
#print axioms Decstr.Proofs.Exec.toFloatInfallibleC_b32
