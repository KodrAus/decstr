import Decstr.Proofs.JudgeLemmas
import Decstr.Props.C06
/-!
# Proofs.JudgeParse — the oracle's judgement of a `parse_str` answer, case by case

`judgeParse` distinguishes by `Spec.parse txt`; in each of the four cases the outcome the property theorems give
(`C06.FiniteOutcome`, `C06.NanOutcome`, `C09_tryParseStr_inf`, `C06_reject`) is one the oracle accepts.
`judgeParse` is unfolded through `judgeParse.eq_def`: `simp only [judgeParse]` would generate the per-constructor
equations of this large definition again inside every proof.
-/
namespace Decstr.Proofs.Judge
open Decstr.Model Decstr.Spec Decstr.Props

theorem parse_finite_int_ne (txt : List Nat) (s : Bool) (i fr : List Nat) (ex : Option (Bool × List Nat))
    (h : parse txt = some (.finite s i fr ex)) : i ≠ [] := by
  have hm := Grammar.parse_sound h
  cases hm with
  | finite sg i' fr' ex' s' f e hs hi hf he =>
    intro h0
    exact hi.1 (List.map_eq_nil_iff.1 h0)

theorem judge_finite (T : Ty) (txt : List Nat) (s : Bool) (i fr : List Nat) (ex : Option (Bool × List Nat))
    (hp : parse txt = some (.finite s i fr ex)) {r : Except Err Buf}
    (h : C06.FiniteOutcome T s (ofDigits (i ++ fr)) (i.length + fr.length) (expValue ex) (expValue ex - fr.length) r) :
    judgeParse T txt (pans r) = [] := by
  rw [← List.length_append] at h
  cases r with
  | ok b =>
    obtain ⟨-, n, hn, rfl, hfit, hlt, -, hcapn, hw⟩ := h.ok
    have hwf : WF ⟨4 * n, encodeFin ⟨n⟩ s (ofDigits (i ++ fr)) (expValue ex - ↑fr.length)⟩ n := ⟨hn, rfl, hlt⟩
    -- without redundant zeros there is at least one digit and at most the written ones
    have hsd : max 1 (stripZeros (i ++ fr)).length ≤ (i ++ fr).length :=
      Nat.max_le.2 ⟨List.length_pos_iff.2 fun h => parse_finite_int_ne txt s i fr ex hp (List.append_eq_nil_iff.1 h).1,
        stripZeros_length_le _⟩
    have hmono := need_mono_digits _ _ (some (expValue ex - ↑fr.length)) hsd
    have hneedn := (need_le_iff _ _ n hn).2 hfit
    have hfit' := fitsB_mono_digits n _ _ _ hsd hfit
    rcases T.kinds with ⟨w, -, -, hfix, hcap, -⟩ | rfl | rfl
    · -- fixed width: the capacity is the width, which holds the digits as written
      rw [hfix] at hw; subst hw
      simp only [judgeParse.eq_def, pans, hp, hcap, hfix, judgeBytes_toBytes _ hwf, List.append_nil, chk_eq_nil,
        decide_eq_true_eq]
      exact Nat.le_trans hmono hneedn
    · -- `Bitstring`: within five words the width is the smallest sufficient one
      simp only [Ty.fixedN] at hw
      have h5 : n ≤ 5 := hcapn 5 rfl
      have hnn := hw.2.2 (Nat.le_trans hw.1 h5)
      simp only [judgeParse.eq_def, pans, hp, Ty.capN, Ty.fixedN, hwf.toBytes_words, judgeBytes_toBytes _ hwf,
        List.append_nil, List.append_eq_nil_iff, chk_eq_nil, Bool.and_eq_true, decide_eq_true_eq]
      exact ⟨Nat.le_trans hmono (Nat.le_trans hw.1 h5), Nat.le_trans hmono hw.1, Nat.le_of_eq hnn⟩
    · -- `BigBitstring`: at most one step above the smallest sufficient width, exactly it up to five words
      simp only [Ty.fixedN] at hw
      simp only [judgeParse.eq_def, pans, hp, Ty.capN, hwf.toBytes_words, judgeBytes_toBytes _ hwf,
        List.append_nil, List.append_eq_nil_iff, chk_eq_nil, Bool.and_eq_true, decide_eq_true_eq, hfit', and_true]
      exact ⟨⟨Nat.le_trans hmono hw.1, hw.2.1⟩, fun h => Nat.le_of_eq (hw.2.2 h)⟩
  | error e =>
    obtain ⟨cap, hcap, hgt, hj⟩ : ∃ cap, T.capN = some cap ∧
        cap < need (i ++ fr).length (some (expValue ex - ↑fr.length)) ∧
        judgeOverflowErr (4 * cap) (i ++ fr).length (some (expValue ex - ↑fr.length)) (inI32 (expValue ex))
          (errFacts e) = [] := by
      rcases h.error with ⟨hx, rfl⟩ | ⟨hx, cap, n, rfl, hcap, hlt, hcn, hfit⟩
      · obtain ⟨hi32, hnot⟩ : T.expIsI32 = true ∧ inI32 (expValue ex) = false := by simpa using hx
        obtain ⟨cap, hcap, hc5⟩ := Ty.capN_of_expIsI32 hi32
        -- an exponent text beyond `i32` needs more than any bounded type has (`inI32_of_need_le`)
        refine ⟨cap, hcap, Nat.lt_of_not_le fun h => ?_, by rw [hnot]; exact judgeOverflowErr_exponent ..⟩
        rw [inI32_of_need_le (by rw [List.length_append]; exact Nat.le_add_left _ _)
          (Nat.le_trans h (Nat.le_trans hc5 (by decide)))] at hnot
        cases hnot
      · have hin : inI32 (expValue ex) = true := by simpa [Ty.expIsI32_of_capN hcap] using hx
        exact ⟨cap, hcap, hlt, by rw [hin]; exact judgeOverflowErr_truthful hcn hfit⟩
    simp only [judgeParse.eq_def, pans, hp, hcap]
    exact refusal_eq_nil.2 ⟨hgt, hj⟩

theorem cap_pos (T : Ty) (cap : Nat) (h : T.capN = some cap) : 0 < cap := (Ty.capN_bounds h).1

theorem judge_nan (T : Ty) (txt : List Nat) (s g : Bool) (pl : Option (List Nat))
    (hp : parse txt = some (.nan s g pl)) {r : Except Err Buf}
    (hlen : ∀ b, r = .ok b → ∀ cap, T.capN = some cap → b.len ≤ 4 * cap)
    (h : C06.NanOutcome T s g (pl.getD []) r) :
    judgeParse T txt (pans r) = [] := by
  have hmono := need_mono_digits _ _ none
    (show (stripZeros (pl.getD [])).length + 1 ≤ (pl.getD []).length + 1 from
      Nat.succ_le_succ (stripZeros_length_le _))
  cases r with
  | ok b =>
    obtain ⟨n, rfl, hwf, -, hneedn, hw⟩ := C06.NanOutcome.ok h
    have hncap : ∀ cap, T.capN = some cap → n ≤ cap := fun cap hc =>
      Nat.le_of_mul_le_mul_left (hlen _ rfl cap hc) (by decide)
    rcases T.kinds with ⟨w, -, -, hfix, hcap, -⟩ | rfl | rfl
    · rw [hfix] at hw; subst hw
      simp only [judgeParse.eq_def, pans, hp, hcap, hfix, judgeBytes_toBytes _ hwf, List.append_nil, chk_eq_nil,
        decide_eq_true_eq]
      exact Nat.le_trans hmono hneedn
    · simp only [Ty.fixedN] at hw
      have h5 : n ≤ 5 := hncap 5 rfl
      have hnn := hw.2 (Nat.le_trans hneedn h5)
      simp only [judgeParse.eq_def, pans, hp, Ty.capN, Ty.fixedN, hwf.toBytes_words, judgeBytes_toBytes _ hwf,
        List.append_nil, List.append_eq_nil_iff, chk_eq_nil, Bool.and_eq_true, decide_eq_true_eq]
      exact ⟨Nat.le_trans hmono (Nat.le_trans hneedn h5), Nat.le_trans hmono hneedn, Nat.le_of_eq hnn⟩
    · simp only [Ty.fixedN] at hw
      simp only [judgeParse.eq_def, pans, hp, Ty.capN, hwf.toBytes_words, judgeBytes_toBytes _ hwf,
        List.append_nil, chk_eq_nil, Bool.and_eq_true, decide_eq_true_eq]
      exact ⟨⟨Nat.le_trans hmono hneedn, hw.1⟩, fun h => Nat.le_of_eq (hw.2 h)⟩
  | error e =>
    obtain ⟨-, cap, n, rfl, hcap, hlt, hcn, hfit⟩ := h.error
    simp only [judgeParse.eq_def, pans, hp, hcap]
    exact refusal_eq_nil.2 ⟨hlt, judgeOverflowErr_truthful hcn hfit⟩

theorem judge_inf (T : Ty) (txt : List Nat) (s : Bool) (hp : parse txt = some (.inf s)) :
    judgeParse T txt (pans (.ok ⟨4 * C09.baseN T, encodeInf ⟨C09.baseN T⟩ s⟩)) = [] := by
  simp only [judgeParse.eq_def, pans, hp]
  exact judgeBytes_toBytes "C09" (WF.encodeInf (C09.baseN_pos T) s)

theorem judgeSyntaxErr_char {txt : List Nat} {i c : Nat} (h : firstBad txt = some i) (hc : txt[i]? = some c) :
    judgeSyntaxErr txt (errFacts (.parse (.char c))) = [] := by
  simp [judgeSyntaxErr, h, errFacts, List.getD, hc]

theorem judgeSyntaxErr_end {txt : List Nat} (h : firstBad txt = none) :
    judgeSyntaxErr txt (errFacts (.parse .endOfInput)) = [] := by
  simp [judgeSyntaxErr, h, errFacts]

theorem judge_reject (T : Ty) (txt : List Nat) (hp : parse txt = none) :
    judgeParse T txt (pans (tryParseStr T txt)) = [] := by
  obtain ⟨e, he, hj⟩ : ∃ e, tryParseStr T txt = .error (.parse e) ∧ judgeSyntaxErr txt (errFacts (.parse e)) = [] := by
    rcases C06.C06_reject txt hp with ⟨i, c, hfb, hget, hps⟩ | ⟨hfb, hps⟩
    · exact ⟨_, by simp only [tryParseStr, hps], judgeSyntaxErr_char hfb hget⟩
    · exact ⟨_, by simp only [tryParseStr, hps], judgeSyntaxErr_end hfb⟩
  simp only [he, judgeParse.eq_def, pans, hp]
  exact hj

/-- the string entry point has no text buffer: `judgeParse` accepts no "buffer too small" from it -/
theorem judgeParse_buffer (T : Ty) (txt : List Nat) (a b g : Nat) : judgeParse T txt (.err ⟨"buffer", a, b, g⟩) ≠ [] := by
  unfold judgeParse
  cases parse txt with
  | none =>
    show judgeSyntaxErr _ _ ≠ []
    unfold judgeSyntaxErr
    cases firstBad txt <;> simp [chk]
  | some num =>
    cases num with
    | inf s => exact List.cons_ne_nil _ _
    | finite s i fr ex =>
      cases T.capN with
      | none => exact List.cons_ne_nil _ _
      | some cap => exact fun h => judgeOverflowErr_buffer _ _ _ _ a b g (refusal_eq_nil.1 h).2
    | nan s sg pl =>
      cases T.capN with
      | none => exact List.cons_ne_nil _ _
      | some cap => exact fun h => judgeOverflowErr_buffer _ _ _ _ a b g (refusal_eq_nil.1 h).2

end Decstr.Proofs.Judge

#print axioms Decstr.Proofs.Judge.judge_finite
#print axioms Decstr.Proofs.Judge.judge_nan
#print axioms Decstr.Proofs.Judge.judge_inf
#print axioms Decstr.Proofs.Judge.judge_reject
