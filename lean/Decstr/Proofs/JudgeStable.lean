import Decstr.Props.C03
/-!
# Proofs.JudgeStable — the printed text is a function of the datum and the precision; second round trips

`toText T b` for a well-formed buffer of `4n` bytes depends on the bits only through `Spec.decode ⟨n⟩ b.bits` and on the
width only through the precision `9n − 2`, and on that in one place: the choice between `0.000ddd` and scientific
notation.  The reader of a `0.000ddd` text held every digit of it, so it prints that layout again: a type that has read
its own text back prints the same text, and a second round trip changes nothing (buffers of at most 160 bits).
-/
namespace Decstr.Proofs.Judge
open Decstr.Model Decstr.Spec Decstr.Props

/-- `Model.fmtNan` on the payload digits already stripped of their leading zeros -/
def nanS (signaling : Bool) (S : List Nat) : List Nat :=
  (if signaling then [115, 110, 97, 110] else [110, 97, 110]) ++ (if S.isEmpty then [] else [40] ++ S ++ [41])

def textOf (T : Ty) (P : Nat) : Datum → List Nat
  | .fin s c e => signText s ++ fmtS T P (sigStr c) e
  | .inf s => signText s ++ [105, 110, 102]
  | .nan s g p => signText s ++ nanS g (sigStr p)

theorem toText_eq_textOf (T : Ty) (b : Buf) (n : Nat) (hwf : WF b n) :
    toText T b = textOf T (9 * n - 2) (decode ⟨n⟩ b.bits) := by
  rcases hwf.classes with ⟨hfin, hd⟩ | ⟨hfin, hinf, hd⟩ | ⟨hfin, hinf, hq, hd⟩ <;> rw [hd]
  · rw [toText_finite T hwf hfin, fmtFinite_eq_fmtS T (digitsOK hwf)]
    simp only [textOf]
    rw [← stripped_eq_sigStr (allDigits_ascii hwf).2]
    rfl
  · rw [toText_infinite T hfin hinf]; rfl
  · rw [toText_nan T hfin hinf]
    simp only [textOf, fmtNan, nanS, hq]
    rw [← stripped_eq_sigStr (decodeDeclets_flatten_ascii b n hwf)]
    cases isSignalingNan b <;> rfl

theorem toText_integer (T : Ty) (b : Buf) (n : Nat) (hwf : WF b n) (s : Bool) (c : Nat)
    (hd : decode ⟨n⟩ b.bits = .fin s c 0) : toText T b = signText s ++ natDigits c :=
  toText_of_decode_int T hwf hd

/-- the one test: whether the `0.000ddd` layout (`k ≤ 5` zeros after the point, so `1 + k + |S|` written digits) fits -/
theorem fmtS_congr (T : Ty) (P P' : Nat) (S : List Nat) (e : Int)
    (h : e < 0 → (T.expIsI32 || (decide (i32Min ≤ e) && decide (e ≤ i32Max))) = true →
      ∀ k : Nat, (S.length : Int) + e = -(k : Int) → k ≤ 5 → (1 + k + S.length ≤ P ↔ 1 + k + S.length ≤ P')) :
    fmtS T P S e = fmtS T P' S e := by
  unfold fmtS
  -- the two `if` trees are walked together down to the one test that mentions the precision
  refine ite_congr rfl (fun _ => rfl) fun _ => ite_congr rfl (fun h1 => ?_) fun _ => rfl
  refine ite_congr rfl (fun _ => rfl) fun h2 => ite_congr (propext ?_) (fun _ => rfl) fun _ => rfl
  exact and_congr_right fun h3 => h h1.1 h1.2 _ (by omega) (by omega)

theorem parse_zero_point (s : Bool) (k : Nat) (S : List Nat) (hS : AsciiDigits S) (hne : k + S.length ≠ 0) :
    parse (signText s ++ ([48, 46] ++ List.replicate k 48 ++ S)) =
      some (.finite s [0] (digitVals (List.replicate k 48 ++ S)) none) := by
  have hfa : AsciiDigits (List.replicate k 48 ++ S) := asciiDigits_append.mpr ⟨asciiDigits_replicate_zero _, hS⟩
  have hfne : List.replicate k 48 ++ S ≠ [] := by
    intro h; apply hne; have := congrArg List.length h; simpa using this
  have := parse_frac s (i := [48]) asciiDigits_zero (by simp) hfa hfne
  simpa using this

theorem parse_textOf_zero_point (T : Ty) (P : Nat) (s : Bool) (c : Nat) (e : Int) (hneg : e < 0)
    (hin : (T.expIsI32 || (decide (i32Min ≤ e) && decide (e ≤ i32Max))) = true)
    (k : Nat) (hk : ((sigStr c).length : Int) + e = -(k : Int)) (hk5 : k ≤ 5) (hP : 1 + k + (sigStr c).length ≤ P) :
    parse (textOf T P (.fin s c e)) =
      some (.finite s [0] (digitVals (List.replicate k 48 ++ sigStr c)) none) := by
  rw [← parse_zero_point s _ _ (sigStr_ascii c) (by omega)]
  show parse (signText s ++ fmtS T P (sigStr c) e) = _
  unfold fmtS
  rw [hk, Int.natAbs_neg, Int.natAbs_natCast, if_neg (Int.ne_of_lt hneg), if_pos ⟨hneg, hin⟩, if_neg (by omega),
    if_pos ⟨by omega, hP⟩]

theorem reparse_text_eq (T : Ty) (b : Buf) (n : Nat) (hwf : WF b n) (h5 : n ≤ 5)
    (hfix : ∀ w, T.fixedN = some w → n = w)
    (b' : Buf) (n' : Nat) (hr : tryParseStr T (toText T b) = .ok b') (hwf' : WF b' n')
    (hdec : decode ⟨n'⟩ b'.bits = decode ⟨n⟩ b.bits) : toText T b' = toText T b := by
  have htxt := toText_eq_textOf T b n hwf
  rw [toText_eq_textOf T b' n' hwf', hdec, htxt]
  obtain ⟨num, hparse, hdatum, _, hcount⟩ := C02.C02_format T b n hwf (fun _ => h5)
  rw [← hdatum]
  cases num with
  | inf s => rfl
  | nan s g pl => rfl
  | finite s i fr ex =>
    rw [datum_finite] at hdatum ⊢
    simp only [textOf]
    refine congrArg _ ?_
    obtain ⟨_, hq⟩ := decode_fin_bounds n hwf.pos b.bits _ _ _ hdatum.symm
    have hneed := (need_le_iff _ _ n hwf.pos).2 ((fitsB_iff ⟨n⟩ _ _).2 ⟨hcount, hq⟩)
    have hout := C06.C01_tryParseStr_finite T (toText T b) s i fr ex hparse
    rw [hr] at hout
    obtain ⟨-, n'', -, hb', hfit, -, -, -, hw⟩ := hout.ok
    obtain rfl : n'' = n' := by
      have := hwf'.len; rw [hb'] at this; exact Nat.eq_of_mul_eq_mul_left (by decide) this
    -- the width read back is at most the original
    have hle : n'' ≤ n := by
      cases hf : T.fixedN with
      | some w => rw [hf] at hw; rw [hw, hfix w hf]
      | none => rw [hf] at hw; rw [hw.2.2 (Nat.le_trans hneed h5)]; exact hneed
    apply fmtS_congr
    intro hneg hin k hk hk5
    refine ⟨fun h => Nat.le_trans h (Nat.sub_le_sub_right (Nat.mul_le_mul_left 9 hle) 2), fun hcond => ?_⟩
    -- the text was in the `0.000ddd` layout; its digit count is what the reader had to hold
    have hp2 := parse_textOf_zero_point T _ s _ _ hneg hin k hk hk5 hcond
    rw [hdatum, ← htxt, hparse] at hp2
    obtain ⟨-, hi, hfr, -⟩ := Numeral.finite.inj (Option.some.inj hp2)
    have := ((fitsB_iff _ _ _).1 hfit).1
    rw [hi, hfr, digitVals_length, List.length_append, List.length_replicate] at this
    rw [Nat.add_assoc]
    exact this

theorem reparse_stable (T : Ty) (b : Buf) (n : Nat) (hwf : WF b n) (h5 : n ≤ 5)
    (hcap : ∀ cap, T.capN = some cap → n ≤ cap) (hfix : ∀ w, T.fixedN = some w → n = w) :
    ∃ b', tryParseStr T (toText T b) = .ok b' ∧ tryParseStr T (toText T b') = .ok b' := by
  obtain ⟨b', n', hr, hwf', hdec, _, _⟩ := C03.C03_reparse T b n hwf (fun _ => h5) hcap
  refine ⟨b', hr, ?_⟩
  rw [reparse_text_eq T b n hwf h5 hfix b' n' hr hwf' hdec]
  exact hr

end Decstr.Proofs.Judge

#print axioms Decstr.Proofs.Judge.toText_eq_textOf
#print axioms Decstr.Proofs.Judge.toText_integer
#print axioms Decstr.Proofs.Judge.reparse_text_eq
#print axioms Decstr.Proofs.Judge.reparse_stable
