import Decstr.Proofs.Basic
/-!
# Proofs.Bits — a byte buffer as a number: the arithmetic every codec proof rests on

Fields of a bit pattern are sums `a * 2 ^ t + T` with `T < 2 ^ t`; the code builds them with `|||` and `<<<` on bytes.
The lemmas here turn the byte operations of `Buf` into that arithmetic, once.
-/
namespace Decstr.Proofs
open Decstr.Model Decstr.Spec

/-! ## fields of a number -/

/-- a digit `a < k` above a field `t < B` -/
theorem mul_add_lt {a k B t : Nat} (ha : a < k) (ht : t < B) : a * B + t < k * B :=
  calc a * B + t < (a + 1) * B := by rw [Nat.succ_mul]; exact Nat.add_lt_add_left ht _
    _ ≤ k * B := Nat.mul_le_mul_right _ ha

/-- a `g`-bit field above a `t`-bit field fits `t + g` bits -/
theorem fields_lt {a T t g : Nat} (ha : a < 2 ^ g) (hT : T < 2 ^ t) : a * 2 ^ t + T < 2 ^ (t + g) := by
  rw [Nat.pow_add, Nat.mul_comm (2 ^ t)]; exact mul_add_lt ha hT

theorem field_split (a t T : Nat) (hT : T < 2 ^ t) : (a * 2 ^ t + T) / 2 ^ t = a ∧ (a * 2 ^ t + T) % 2 ^ t = T := by
  have hp : 0 < 2 ^ t := Nat.two_pow_pos t
  constructor
  · rw [Nat.mul_comm, Nat.mul_add_div hp, Nat.div_eq_of_lt hT]; rfl
  · rw [Nat.mul_comm, Nat.mul_add_mod, Nat.mod_eq_of_lt hT]

/-- OR into a region that is still zero is addition -/
theorem or_shiftLeft_eq_add {N k : Nat} (hN : N < 2 ^ k) (x : Nat) : N ||| x <<< k = N + x * 2 ^ k := by
  rw [Nat.or_comm, ← Nat.shiftLeft_add_eq_or_of_lt hN, Nat.shiftLeft_eq, Nat.add_comm]

/-- a little-endian digit `x < 2 ^ w` in front of `T`, shifted: the digit at `k`, the rest at `k + w` -/
theorem shiftLeft_cons {x w : Nat} (hx : x < 2 ^ w) (T k : Nat) :
    (x + 2 ^ w * T) <<< k = x <<< k ||| T <<< (k + w) := by
  rw [Nat.add_comm x, Nat.two_pow_add_eq_or_of_lt hx, Nat.shiftLeft_or_distrib, Nat.or_comm, Nat.add_comm k,
    Nat.shiftLeft_add, Nat.shiftLeft_eq T, Nat.mul_comm T]

theorem shiftLeft_lt_two_pow {x w : Nat} (hx : x < 2 ^ w) {s k : Nat} (h : w + s ≤ k) : x <<< s < 2 ^ k :=
  calc x <<< s = x * 2 ^ s := Nat.shiftLeft_eq ..
    _ < 2 ^ w * 2 ^ s := Nat.mul_lt_mul_of_pos_right hx (Nat.two_pow_pos s)
    _ ≤ 2 ^ k := by rw [← Nat.pow_add]; exact Nat.pow_le_pow_right (by decide) h

theorem pow8_succ (c : Nat) : 2 ^ (8 * (c + 1)) = 256 * 2 ^ (8 * c) := by
  rw [Nat.mul_succ, Nat.pow_add, Nat.mul_comm]

/-- a value of at most 16 bits once shifted, cut into the byte it lands in and the byte above (`s ≤ 8`):
    what `buf[i] |= (x << s) as u8; buf[i + 1] |= (x >> (8 - s)) as u8` writes -/
theorem splice {x s : Nat} (hs : s ≤ 8) (hx : x <<< s < 2 ^ 16) :
    (x <<< s) % 256 + 256 * (x >>> (8 - s) % 256) = x <<< s := by
  have e : x >>> (8 - s) = x <<< s / 256 := by
    rw [Nat.shiftRight_eq_div_pow, Nat.shiftLeft_eq,
      show 256 = 2 ^ (8 - s) * 2 ^ s by rw [← Nat.pow_add, Nat.sub_add_cancel hs],
      Nat.mul_div_mul_right _ _ (Nat.two_pow_pos s)]
  rw [e, Nat.mod_eq_of_lt (a := x <<< s / 256) (by omega)]
  exact Nat.mod_add_div _ _

/-- the `8 − s + m` bits of `M` from bit `s` on, split where the first byte ends -/
theorem bits_across_byte (M s m : Nat) (hs : s ≤ 8) :
    M / 2 ^ s % 2 ^ (8 - s + m) = M / 256 % 2 ^ m * 2 ^ (8 - s) + M % 256 / 2 ^ s := by
  have h256 : 256 = 2 ^ s * 2 ^ (8 - s) := by rw [← Nat.pow_add, Nat.add_sub_cancel' hs]
  have h1 : M % 256 / 2 ^ s = M / 2 ^ s % 2 ^ (8 - s) := by rw [h256, Nat.mod_mul_right_div_self]
  have h2 : M / 2 ^ s / 2 ^ (8 - s) = M / 256 := by rw [Nat.div_div_eq_div_mul, ← h256]
  rw [Nat.pow_add, Nat.mod_mul, h1, h2, Nat.mul_comm, Nat.add_comm]

theorem shiftRight_byte_lt {x s : Nat} (hx : x < 256) (hs : s ≤ 8) : x >>> s < 2 ^ (8 - s) := by
  rw [Nat.shiftRight_eq_div_pow, Nat.div_lt_iff_lt_mul (Nat.two_pow_pos _), ← Nat.pow_add, Nat.sub_add_cancel hs]
  exact hx

/-- two adjacent bytes of `M` read at an offset `s < 8`, the way a `u16` is built from `buf[i] >> s | buf[i+1] << (8 − s)` -/
theorem window (M : Nat) {s : Nat} (hs : s < 8) :
    ((M % 256) >>> s) ||| ((M / 256 % 256) <<< (8 - s)) = M / 2 ^ s % 2 ^ (16 - s) := by
  rw [or_shiftLeft_eq_add (shiftRight_byte_lt (Nat.mod_lt _ (by decide)) (Nat.le_of_lt hs)), Nat.shiftRight_eq_div_pow,
    (by omega : 16 - s = 8 - s + 8), bits_across_byte _ _ 8 (Nat.le_of_lt hs), Nat.add_comm]

/-- a value shifted into the free high bits of a byte is added to what the byte holds -/
theorem or_shiftLeft_byte {a c k m : Nat} (ha : a < 2 ^ k) (hc : c < 2 ^ m) (hkm : k + m ≤ 8) :
    a ||| (c <<< k) % 256 = c * 2 ^ k + a ∧ c * 2 ^ k + a < 2 ^ (k + m) := by
  have hlt := fields_lt hc ha
  have h256 : 2 ^ (k + m) ≤ 256 := Nat.pow_le_pow_right (by decide) hkm
  rw [Nat.mod_eq_of_lt (by rw [Nat.shiftLeft_eq]; omega), or_shiftLeft_eq_add ha, Nat.add_comm]
  exact ⟨rfl, hlt⟩

/-- one more byte below a field `e · 2^K + (K bits)` -/
theorem prepend_byte (Q e K : Nat) :
    Q % 256 + 256 * (e * 2 ^ K + Q / 256 % 2 ^ K) = e * 2 ^ (K + 8) + Q % 2 ^ (K + 8) := by
  rw [Nat.pow_add, Nat.mul_comm (2 ^ K), Nat.mod_mul, Nat.mul_add, Nat.mul_left_comm, Nat.add_left_comm]

theorem div_pow_add (a x y : Nat) : a / 2 ^ (x + y) = a / 2 ^ x / 2 ^ y := by
  rw [Nat.div_div_eq_div_mul, ← Nat.pow_add]

theorem div_pow8_succ (N i : Nat) : N / 2 ^ (8 * (i + 1)) = N / 2 ^ (8 * i) / 256 := by
  rw [Nat.mul_succ, div_pow_add]

/-- a mask below `2 ^ k` only sees the low `k` bits -/
theorem and_mod_two_pow_of_lt (x : Nat) {m k : Nat} (hm : m < 2 ^ k) : x &&& m = (x % 2 ^ k) &&& m := by
  rw [← Nat.and_two_pow_sub_one_eq_mod, Nat.and_assoc, Nat.and_comm (2 ^ k - 1) m,
    Nat.and_two_pow_sub_one_eq_mod, Nat.mod_eq_of_lt hm]

/-! ## `Buf.get`, `Buf.orAt`, `Buf.setAt` as arithmetic -/

theorem Buf.get_eq (b : Buf) (i : Nat) : b.get i = b.bits / 2 ^ (8 * i) % 256 := by
  rw [Buf.get, Nat.shiftRight_eq_div_pow]

theorem Buf.get_lt (b : Buf) (i : Nat) : b.get i < 256 := Nat.mod_lt _ (by decide)

theorem Buf.get_succ (b : Buf) (i : Nat) : b.get (i + 1) = b.bits / 2 ^ (8 * i) / 256 % 256 := by
  rw [Buf.get_eq, div_pow8_succ]

/-- the top byte of a number that ends there -/
theorem Buf.get_top {b : Buf} {i : Nat} (h : b.bits < 2 ^ (8 * (i + 1))) : b.get i = b.bits / 2 ^ (8 * i) := by
  rw [Buf.get_eq, Nat.mod_eq_of_lt]
  rw [Nat.div_lt_iff_lt_mul (Nat.two_pow_pos _), ← pow8_succ]; exact h

/-- the two byte ORs that store `x << s` at byte `i` are one OR of `x` at bit `8 i + s` -/
theorem Buf.orAt_pair (b : Buf) (i : Nat) {x s : Nat} (hs : s ≤ 8) (hx : x <<< s < 2 ^ 16) :
    (b.orAt i (x <<< s)).orAt (i + 1) (x >>> (8 - s)) = ⟨b.len, b.bits ||| x <<< (8 * i + s)⟩ := by
  simp only [Buf.orAt]
  rw [Nat.or_assoc, Nat.mul_succ, ← shiftLeft_cons (w := 8) (Nat.mod_lt _ (by decide)), splice hs hx, ← Nat.shiftLeft_add,
    Nat.add_comm s]

/-- `buf[i] = v` on a number that ends in byte `i`: the bytes below stay, byte `i` is replaced -/
theorem Buf.setAt_top {b : Buf} {i : Nat} (h : b.bits < 2 ^ (8 * (i + 1))) (v : Nat) :
    b.setAt i v = ⟨b.len, b.bits % 2 ^ (8 * i) + v % 256 * 2 ^ (8 * i)⟩ := by
  simp only [Buf.setAt, Buf.get_top h, Nat.shiftLeft_eq]
  rw [Nat.mod_def b.bits, Nat.mul_comm (2 ^ (8 * i))]

/-- `buf[i] = v` on a number that ends below byte `i` -/
theorem Buf.setAt_fresh {b : Buf} {i : Nat} (h : b.bits < 2 ^ (8 * i)) (v : Nat) :
    b.setAt i v = ⟨b.len, b.bits + v % 256 * 2 ^ (8 * i)⟩ := by
  rw [Buf.setAt_top (Nat.lt_of_lt_of_le h (Nat.pow_le_pow_right (by decide) (by omega))), Nat.mod_eq_of_lt h]

/-! ## little-endian bytes of a number (`Spec.leBytes`, `Spec.ofLeBytes`) -/

theorem leBytes_length (len N : Nat) : (leBytes len N).length = len := by
  induction len generalizing N with
  | zero => rfl
  | succ k ih => simp [leBytes, ih]

theorem leBytes_lt (len N : Nat) : ∀ x ∈ leBytes len N, x < 256 := by
  induction len generalizing N with
  | zero => intro x hx; simp [leBytes] at hx
  | succ k ih =>
    intro x hx
    simp only [leBytes, List.mem_cons] at hx
    rcases hx with rfl | hx
    · exact Nat.mod_lt _ (by decide)
    · exact ih _ x hx

theorem ofLeBytes_leBytes (len N : Nat) (h : N < 2 ^ (8 * len)) : ofLeBytes (leBytes len N) = N := by
  induction len generalizing N with
  | zero => simp at h; subst h; rfl
  | succ k ih =>
    simp only [leBytes, ofLeBytes]
    rw [pow8_succ] at h
    have : N / 256 < 2 ^ (8 * k) := by omega
    rw [ih _ this]; omega

theorem leBytes_ofLeBytes (l : List Nat) (h : ∀ x ∈ l, x < 256) : leBytes l.length (ofLeBytes l) = l := by
  induction l with
  | nil => rfl
  | cons x xs ih =>
    have hx : x < 256 := h x (by simp)
    have hxs : ∀ y ∈ xs, y < 256 := fun y hy => h y (by simp [hy])
    simp only [List.length_cons, leBytes, ofLeBytes]
    have h1 : (x + 256 * ofLeBytes xs) % 256 = x := by omega
    have h2 : (x + 256 * ofLeBytes xs) / 256 = ofLeBytes xs := by omega
    rw [h1, h2, ih hxs]

/-! ## the format of a `4n`-byte buffer -/

theorem Buf.widthBits_of_len {b : Buf} {n : Nat} (hl : b.len = 4 * n) : b.widthBits = 32 * n := by
  rw [Buf.widthBits, hl]; omega
theorem Buf.precision_of_len {b : Buf} {n : Nat} (hl : b.len = 4 * n) : b.precision = 9 * n - 2 := by
  rw [Buf.precision, Buf.widthBits_of_len hl, Nat.mul_left_comm, Nat.mul_div_cancel_left _ (by decide)]
theorem Buf.trailingDigits_of_len {b : Buf} {n : Nat} (hl : b.len = 4 * n) : b.trailingDigits = 9 * n - 3 := by
  rw [Buf.trailingDigits, Buf.precision_of_len hl, Nat.sub_sub]
theorem Buf.trailingBits_of_len {b : Buf} {n : Nat} (hl : b.len = 4 * n) : b.trailingBits = 30 * n - 10 := by
  rw [Buf.trailingBits, Buf.widthBits_of_len hl, show 15 * (32 * n) = 16 * (30 * n) by omega,
    Nat.mul_div_cancel_left _ (by decide)]
theorem Buf.combinationBits_of_len {b : Buf} {n : Nat} (hl : b.len = 4 * n) : b.combinationBits = 2 * n + 9 := by
  rw [Buf.combinationBits, Buf.widthBits_of_len hl]; omega
theorem Buf.exponentBits_of_len {b : Buf} {n : Nat} (hl : b.len = 4 * n) : b.exponentBits = 2 * n + 6 := by
  rw [Buf.exponentBits, Buf.combinationBits_of_len hl]; omega

/-- the byte geometry of a `32n`-bit pattern: the trailing significand (`30n − 10` bits) ends `s` bits into byte `di`; the
    exponent continuation that follows has `2n + 4 = 8j + r` bits with `r + s = 10`, so it ends two bits into the last
    byte `di + j + 1` (`s` is even: the offsets 1 and 3, at which the decoder is wrong, do not occur) -/
theorem layout32 (n : Nat) (hn : 0 < n) :
    ∃ di s j r, s < 8 ∧ s % 2 = 0 ∧ r + s = 10 ∧ 30 * n - 10 = 8 * di + s ∧ 4 * n = di + j + 2 ∧ 2 * n + 4 = 8 * j + r :=
  ⟨(30 * n - 10) / 8, (30 * n - 10) % 8, 4 * n - 2 - (30 * n - 10) / 8, 10 - (30 * n - 10) % 8, by omega⟩

/-- the trailing significand ends below the last byte, the exponent continuation two bits into it, the sign is its top bit -/
theorem lastByte_layout (n : Nat) (hn : 0 < n) :
    30 * n - 10 ≤ 8 * (4 * n - 1) ∧ 30 * n - 10 + (2 * n + 4) = 8 * (4 * n - 1) + 2 ∧ 32 * n - 1 = 8 * (4 * n - 1) + 7 := by
  omega

/-- the model's `emax` and bias of a `32n`-bit buffer are the specification's -/
theorem emaxOf_eq (n : Nat) : emaxOf (32 * n) = ((Spec.Fmt.mk n).emax : Int) := by
  unfold emaxOf Spec.Fmt.emax
  simp only
  rw [show 32 * n / 16 = 2 * n by omega]
  norm_cast

theorem biasOf_eq (n : Nat) (hn : 0 < n) : biasOf (32 * n) (9 * n - 2) = ((Spec.Fmt.mk n).bias : Int) := by
  unfold biasOf Spec.Fmt.bias Spec.Fmt.p
  rw [emaxOf_eq]
  simp only
  omega

/-- `most_significant_exponent_offset`: the exponent's top byte is byte `idx` and holds `off` bits of it, `2 ≤ off ≤ 8`
    (`x % 8 = 1` would leave one bit there, so that `off - 2` underflows; it does not occur: `x = 2n + 6` is even) -/
theorem msExponentOffset_spec {x : Nat} (h0 : 0 < x) (h1 : x % 8 ≠ 1) :
    2 ≤ (msExponentOffset x).1 ∧ (msExponentOffset x).1 ≤ 8 ∧ 8 * (msExponentOffset x).2 + (msExponentOffset x).1 = x := by
  unfold msExponentOffset
  split <;> (simp only; omega)

end Decstr.Proofs
