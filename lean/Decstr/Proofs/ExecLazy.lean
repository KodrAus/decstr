import Decstr.Model.ExecApi
import Decstr.Proofs.ExecSig
/-!
# Proofs.ExecLazy — the digit stream decoded on demand (`Digits`, `nextDigitC`) and its consumers

`toIntC` and `toFloatC` pull the digits of a decimal one at a time, as the Rust consumers of
`decode_significand_trailing_declets` do, and stop where they stop.  Here: whenever the *whole* decoder succeeds (the
eager run of the same iterator), the stream yields exactly the digits it decoded, and every lazy consumer computes what
its list counterpart computes on those digits — for every buffer, well-formed or not.
-/
namespace Decstr.Proofs.Exec
open Decstr.Model Decstr.Model.Exec Decstr.Spec

theorem decodeDecletsGoC_succ {c : Bool} (b : Buf) (k bit : Nat) :
    decodeDecletsGoC c b (k + 1) bit = decodeStepC c b bit >>= fun
      | none => .ok []
      | some (d, bit') => decodeDecletsGoC c b k bit' >>= fun ds => .ok (d :: ds) := by
  rw [decodeDecletsGoC, decodeStepC]
  split
  · rfl
  · rcases subUsize c _ bit 10 with e | bit'
    · rfl
    · dsimp only
      rcases readDpdC b bit' with e | dpd
      · rfl
      · simp only [bcdOfDpdC_eq, asciiOfBcdC_eq, bind_ok]
        rcases decodeDecletsGoC c b k bit' with e | ds <;> rfl

/-- a step that yields a declet yields the ASCII of a BCD declet: whatever the buffer holds, `bcd + b'0'` did not
    overflow on the way (`asciiOfBcdC_eq`) -/
theorem decodeStepC_some {c : Bool} {b : Buf} {bit : Nat} {d : List Nat} {bit' : Nat}
    (h : decodeStepC c b bit = .ok (some (d, bit'))) : ∃ bcd, d = asciiOfBcd bcd := by
  unfold decodeStepC at h
  simp only [bcdOfDpdC_eq, asciiOfBcdC_eq] at h
  split at h
  · cases h
  · revert h
    rcases subUsize c _ bit 10 with e | x
    · nofun
    · dsimp only
      rcases readDpdC b x with e | dpd
      · nofun
      · intro h; cases h; exact ⟨_, rfl⟩

theorem nextC_cons {c : Bool} (b : Buf) (d : Nat) (r : List Nat) (k bit : Nat) :
    Digits.nextC c b ⟨d :: r, k, bit⟩ = .ok (some (d, ⟨r, k, bit⟩)) := by
  rw [Digits.nextC, nextDigitC]

theorem nextC_step {c : Bool} (b : Buf) (k bit : Nat) :
    Digits.nextC c b ⟨[], k + 1, bit⟩ = decodeStepC c b bit >>= fun
      | none => .ok none
      | some (ds, bit') => Digits.nextC c b ⟨ds, k, bit'⟩ := by
  rw [Digits.nextC, nextDigitC]
  rcases decodeStepC c b bit with e | _ | ⟨ds, bit'⟩ <;> rfl

/-- the stream yields exactly `ds`, then `None`, and no pull on the way reaches a panic site -/
def Yields (c : Bool) (b : Buf) : Digits → List Nat → Prop
  | it, [] => it.nextC c b = .ok none
  | it, d :: ds => ∃ it', it.nextC c b = .ok (some (d, it')) ∧ Yields c b it' ds

theorem yields_congr {c : Bool} {b : Buf} {it it2 : Digits} (h : it.nextC c b = it2.nextC c b) {xs : List Nat}
    (hy : Yields c b it xs) : Yields c b it2 xs := by
  cases xs with
  | nil => unfold Yields at hy ⊢; rw [← h]; exact hy
  | cons x xs => unfold Yields at hy ⊢; rw [← h]; exact hy

theorem yields_pending {c : Bool} {b : Buf} (p : List Nat) {k bit : Nat} {xs : List Nat}
    (h : Yields c b ⟨[], k, bit⟩ xs) : Yields c b ⟨p, k, bit⟩ (p ++ xs) := by
  induction p with
  | nil => exact h
  | cons x p ih => exact ⟨⟨p, k, bit⟩, nextC_cons b x p k bit, ih⟩

theorem yields_of_decode {c : Bool} {b : Buf} {k bit : Nat} {L : List (List Nat)}
    (h : decodeDecletsGoC c b k bit = .ok L) : Yields c b ⟨[], k, bit⟩ L.flatten := by
  induction k generalizing bit L with
  | zero =>
    rw [decodeDecletsGoC] at h
    cases h
    rfl
  | succ k ih =>
    rw [decodeDecletsGoC_succ] at h
    obtain ⟨o, hs, h⟩ := bind_eq_ok h
    have hn := nextC_step (c := c) b k bit
    rw [hs, bind_ok] at hn
    rcases o with _ | ⟨d, bit'⟩
    · cases h
      exact hn
    · obtain ⟨L', hr, h⟩ := bind_eq_ok h
      cases h
      exact yields_congr hn.symm (yields_pending d (ih hr))

theorem yields_start {c : Bool} {b : Buf} (front : List Nat) {tb : Nat} {L : List (List Nat)}
    (h : decodeDecletsGoC c b ((tb + 9) / 10) tb = .ok L) : Yields c b (Digits.start front tb) (front ++ L.flatten) :=
  yields_pending front (yields_of_decode h)

/-- a pull that yields a digit took a pending one, or decoded one declet for one unit of fuel and took its first -/
theorem nextC_some {c : Bool} {b : Buf} {it it' : Digits} {d : Nat} (h : it.nextC c b = .ok (some (d, it'))) :
    (it.pending = d :: it'.pending ∧ it.fuel = it'.fuel) ∨
      ∃ bcd, it.pending = [] ∧ it.fuel = it'.fuel + 1 ∧ d :: it'.pending = asciiOfBcd bcd := by
  obtain ⟨p, k, bit⟩ := it
  match p, k with
  | x :: r, k =>
    rw [nextC_cons] at h
    cases h
    exact .inl ⟨rfl, rfl⟩
  | [], 0 => cases h
  | [], k + 1 =>
    rw [nextC_step] at h
    obtain ⟨o, hs, h⟩ := bind_eq_ok h
    rcases o with _ | ⟨ds, bit'⟩
    · cases h
    · obtain ⟨bcd, rfl⟩ := decodeStepC_some hs
      dsimp only [asciiOfBcd] at h
      rw [nextC_cons] at h
      cases h
      exact .inr ⟨bcd, rfl, rfl, rfl⟩

/-- a pull that yields a digit lowers the bound: a pending digit goes, or one unit of fuel is paid for a declet, whose
    three digits are there at once -/
theorem nextC_bound {c : Bool} {b : Buf} {it it' : Digits} {d : Nat} (h : it.nextC c b = .ok (some (d, it'))) :
    it'.bound + 1 ≤ it.bound := by
  unfold Digits.bound
  rcases nextC_some h with ⟨hp, hk⟩ | ⟨bcd, hp, hk, hd⟩
  · rw [hp, hk, List.length_cons, Nat.add_right_comm]
  · have hl : it'.pending.length + 1 = 3 := congrArg List.length hd
    rw [hp, hk, List.length_nil]
    omega

theorem yields_length_le {c : Bool} {b : Buf} : ∀ {ds : List Nat} {it : Digits}, Yields c b it ds → ds.length ≤ it.bound
  | [], _, _ => Nat.zero_le _
  | _ :: _, _, ⟨_, hn, hy⟩ => Nat.le_trans (Nat.succ_le_succ (yields_length_le hy)) (nextC_bound hn)

theorem asciiOfBcd_ge (bcd : Nat) : ∀ x ∈ asciiOfBcd bcd, 48 ≤ x := by
  intro x hx
  simp only [asciiOfBcd, List.mem_cons, List.not_mem_nil, or_false] at hx
  rcases hx with rfl | rfl | rfl <;> exact Nat.le_add_left _ _

theorem yields_ge {c : Bool} {b : Buf} : ∀ {ds : List Nat} {it : Digits}, Yields c b it ds → (∀ x ∈ it.pending, 48 ≤ x) →
    ∀ x ∈ ds, 48 ≤ x
  | [], _, _, _ => nofun
  | d :: ds, it, ⟨it', hn, hy⟩, hp => by
    have h : ∀ x ∈ d :: it'.pending, 48 ≤ x := by
      rcases nextC_some hn with ⟨hp', _⟩ | ⟨bcd, _, _, hd⟩
      · rwa [← hp']
      · rw [hd]
        exact asciiOfBcd_ge bcd
    obtain ⟨h1, h2⟩ := List.forall_mem_cons.1 h
    exact List.forall_mem_cons.2 ⟨h1, yields_ge hy h2⟩

/-- `try_from_ascii` over `ascii.take(n)`: the list function's answer, paired with the stream `it'` behind those digits -/
theorem intFromDigitsC_yields {c : Bool} {b : Buf} {I : IntTy} {neg : Bool} (hs : (neg && !I.signed) = false) (n : Nat)
    {ds : List Nat} {it : Digits} (acc : Int) (h : Yields c b it ds) :
    ∃ it', intFromDigitsC c b I neg n it acc = (intFromAsciiC c I neg (ds.take n) acc).map (fun r => (r, it')) ∧
      ∀ v, intFromAsciiC c I neg (ds.take n) acc = .ok (some v) → Yields c b it' (ds.drop n) := by
  induction n generalizing ds it acc with
  | zero =>
    refine ⟨it, ?_, ?_⟩
    · rw [List.take_zero, intFromDigitsC, intFromAsciiC]; rfl
    · intro v _; exact h
  | succ n ih =>
    cases ds with
    | nil =>
      refine ⟨it, ?_, ?_⟩
      · have hn : it.nextC c b = .ok none := h
        rw [List.take_nil, intFromDigitsC, hn, intFromAsciiC]; rfl
      · intro v _; exact h
    | cons d ds =>
      obtain ⟨it1, hn, hy⟩ := h
      rw [List.take_succ_cons, List.drop_succ_cons, intFromDigitsC, hn, intFromAsciiC, if_neg (ne_true_of_eq_false hs)]
      dsimp only
      cases (!I.contains (acc * 10)) with
      | true => exact ⟨it1, rfl, nofun⟩
      | false =>
        cases subU8 c "num.rs:167 b - b'0'" d 48 with
        | error e => exact ⟨it1, rfl, nofun⟩
        | ok dv =>
          dsimp only
          generalize (if neg = true then acc * 10 - ((dv : Nat) : Int) else acc * 10 + ((dv : Nat) : Int)) = v
          cases (!I.contains v) with
          | true => exact ⟨it1, rfl, nofun⟩
          | false => exact ih v hy

theorem intFromAsciiC_eq {c : Bool} {I : IntTy} {neg : Bool} {ds : List Nat} (hds : ∀ d ∈ ds, 48 ≤ d) (acc : Int) :
    intFromAsciiC c I neg ds acc = .ok (intFromAscii I neg ds acc) := by
  induction ds generalizing acc with
  | nil => rfl
  | cons d ds ih =>
    unfold intFromAsciiC intFromAscii
    dsimp only
    refine ok_ite (fun _ => rfl) fun _ => ok_ite (fun _ => rfl) fun _ => ?_
    rw [subU8_ok (hds d List.mem_cons_self)]
    exact ok_ite (fun _ => rfl) fun _ => ih (fun x hx => hds x (List.mem_cons_of_mem d hx)) _

/-- `try_from_ascii`, either signedness: a negative sign on an unsigned target gives `None` before any digit is pulled -/
theorem tryFromDigitsC_yields {c : Bool} {b : Buf} (I : IntTy) (neg : Bool) (n : Nat) {it : Digits} {ds : List Nat}
    (hy : Yields c b it ds) :
    ∃ it', tryFromDigitsC c b I neg n it =
        (if (neg && !I.signed) = true then .ok none else intFromAsciiC c I neg (ds.take n) 0).map (fun r => (r, it')) ∧
      ∀ v, (neg && !I.signed) = false → intFromAsciiC c I neg (ds.take n) 0 = .ok (some v) → Yields c b it' (ds.drop n) := by
  unfold tryFromDigitsC
  cases hs : (neg && !I.signed) with
  | true => exact ⟨it, rfl, fun v h => by cases h⟩
  | false =>
    obtain ⟨it', h1, h2⟩ := intFromDigitsC_yields hs n 0 hy
    exact ⟨it', h1, fun v _ => h2 v⟩

theorem tryFromDigitsC_eq {c : Bool} {b : Buf} (I : IntTy) (neg : Bool) {it : Digits} {ds : List Nat}
    (hy : Yields c b it ds) (hds : ∀ d ∈ ds, 48 ≤ d) :
    ∃ it', tryFromDigitsC c b I neg (it.bound + 1) it =
      .ok (if (neg && !I.signed) = true then none else intFromAscii I neg ds 0, it') := by
  obtain ⟨it', h1, -⟩ := tryFromDigitsC_yields I neg (it.bound + 1) hy
  refine ⟨it', ?_⟩
  rw [h1, List.take_of_length_le (Nat.le_succ_of_le (yields_length_le hy)), intFromAsciiC_eq hds 0]
  split <;> rfl

theorem allZeroC_yields {c : Bool} {b : Buf} {n : Nat} {ds : List Nat} {it : Digits} (h : Yields c b it ds) (hl : ds.length < n) :
    allZeroC c b n it = .ok (ds.all (· == 48)) := by
  induction n generalizing ds it with
  | zero => omega
  | succ n ih =>
    cases ds with
    | nil =>
      have hn : it.nextC c b = .ok none := h
      rw [allZeroC, hn]; rfl
    | cons d ds =>
      obtain ⟨it1, hn, hy⟩ := h
      rw [allZeroC, hn, List.all_cons]
      dsimp only
      cases d == 48 with
      | true => exact ih hy (Nat.lt_of_succ_lt_succ hl)
      | false => rfl

theorem skipZerosC_yields {c : Bool} {b : Buf} {n : Nat} {ds : List Nat} {it : Digits} (h : Yields c b it ds) (hl : ds.length < n) :
    match ds.dropWhile (· == 48) with
    | [] => skipZerosC c b n it = .ok none
    | d :: r => ∃ it', skipZerosC c b n it = .ok (some (d, it')) ∧ Yields c b it' r := by
  induction n generalizing ds it with
  | zero => omega
  | succ n ih =>
    cases ds with
    | nil =>
      have hn : it.nextC c b = .ok none := h
      simp only [List.dropWhile_nil]
      rw [skipZerosC, hn]
    | cons d ds =>
      obtain ⟨it1, hn, hy⟩ := h
      rw [skipZerosC, hn, List.dropWhile_cons]
      dsimp only
      cases d == 48 with
      | true => exact ih hy (Nat.lt_of_succ_lt_succ hl)
      | false => exact ⟨it1, rfl, hy⟩

theorem pushDigitsC_yields {c : Bool} {b : Buf} {site : String} {n : Nat} {ds : List Nat} {it : Digits} {t : List Nat}
    (h : Yields c b it ds) (hl : ds.length < n) : pushDigitsC c b site n it t = fpushAllC c site t ds := by
  induction n generalizing ds it t with
  | zero => omega
  | succ n ih =>
    cases ds with
    | nil =>
      have hn : it.nextC c b = .ok none := h
      rw [pushDigitsC, hn, fpushAllC]
    | cons d ds =>
      obtain ⟨it1, hn, hy⟩ := h
      rw [pushDigitsC, hn, fpushAllC]
      dsimp only
      rcases fpushC c site t d with e | _ | t'
      · rfl
      · rfl
      · exact ih hy (Nat.lt_of_succ_lt_succ hl)

theorem fpushAllC_cons {c : Bool} {site : String} (t : List Nat) (d : Nat) (ds : List Nat) :
    fpushAllC c site t (d :: ds) = fpushC c site t d >>= fun
      | none => .ok none
      | some t' => fpushAllC c site t' ds := by
  rw [fpushAllC]
  rcases fpushC c site t d with e | _ | t' <;> rfl

theorem fpushAllC_one {c : Bool} {site : String} (t : List Nat) (d : Nat) : fpushAllC c site t [d] = fpushC c site t d := by
  rw [fpushAllC]
  rcases fpushC c site t d with e | _ | t' <;> rfl

/-- **lazy = eager, `parse_ascii`**: the sign before and the exponent after are the same text on both sides; between them
    the stream's pushes are `fpushAllC` on what `skip_while` leaves -/
theorem floatTextLazyC_yields {c : Bool} {b : Buf} {neg : Bool} {it : Digits} {ds : List Nat} {exponent : Int}
    (h : Yields c b it ds) : floatTextLazyC c b neg it exponent = floatTextC c neg ds exponent := by
  unfold floatTextLazyC floatTextC
  refine bind_congr fun o => ?_
  rcases o with _ | t
  · rfl
  dsimp only
  have hsk := skipZerosC_yields h (Nat.lt_succ_of_le (yields_length_le h))
  revert hsk
  rcases ds.dropWhile (· == 48) with _ | ⟨d, r⟩
  · intro hsk
    rw [hsk, bind_ok]
    congr 1
    exact (fpushAllC_one t 48).symm
  · rintro ⟨it', hsk, hy'⟩
    rw [hsk, bind_ok]
    congr 1
    simp only [pushDigitsC_yields hy' (Nat.lt_succ_of_le (yields_length_le hy'))]
    exact (fpushAllC_cons t d r).symm

end Decstr.Proofs.Exec

#print axioms Decstr.Proofs.Exec.yields_of_decode
#print axioms Decstr.Proofs.Exec.intFromDigitsC_yields
#print axioms Decstr.Proofs.Exec.allZeroC_yields
#print axioms Decstr.Proofs.Exec.floatTextLazyC_yields
