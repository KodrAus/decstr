import Decstr.Proofs.Numeral
/-!
# Proofs.StreamBuf — the three text parsers without their buffer

Every `TextBuf` kind records *ranges* into a stored text.  Replacing each range by the bytes it denotes gives parser
states that mention no buffer; one byte of a concrete parser, over any buffer kind, is one byte of that abstract one,
provided the ranges are in step with the buffer.  Separately, and without that proviso: a byte keeps the buffer kind
and stores at most one byte, which is what the capacity tests are set against.
-/
namespace Decstr.Proofs
open Decstr.Model Decstr.Spec

theorem except_map_ok {ε α β} (f : α → β) (a : α) : (Except.ok a : Except ε α).map f = .ok (f a) := rfl

theorem Except.map_eq_ok {ε α β : Type} {f : α → β} {x : Except ε α} {b : β} :
    x.map f = .ok b ↔ ∃ a, x = .ok a ∧ f a = b := by
  cases x <;> simp [Except.map]

/-! ## the byte loop: what is proved of a one-byte `step` is lifted to a fragment here, once -/

def stepsM {σ ε : Type} (step : σ → Nat → Except ε σ) (s : σ) : List Nat → Except ε σ
  | [] => .ok s
  | c :: cs => match step s c with
    | .ok s' => stepsM step s' cs
    | .error e => .error e

section
variable {σ α ε : Type} (step : σ → Nat → Except ε σ)

theorem stepsM_append (s : σ) (a b : List Nat) :
    stepsM step s (a ++ b) = match stepsM step s a with
      | .ok s' => stepsM step s' b
      | .error e => .error e := by
  induction a generalizing s with
  | nil => rfl
  | cons c cs ih =>
    simp only [List.cons_append, stepsM]
    cases step s c with
    | error e => rfl
    | ok s' => exact ih s'

/-- `r`, seen through `view`, is `a` (the same error, or the view of the accepted state), and an accepted state
    satisfies `P` -/
def SimV (view : σ → α) (P : σ → Prop) (r : Except ε σ) (a : Except ε α) : Prop :=
  r.map view = a ∧ ∀ q, r = .ok q → P q

theorem SimV.ok {view : σ → α} {P : σ → Prop} {q : σ} {a : α} (h : view q = a ∧ P q) :
    SimV view P (.ok q : Except ε σ) (.ok a) :=
  ⟨congrArg _ h.1, fun _ e => by cases e; exact h.2⟩

theorem SimV.error {view : σ → α} {P : σ → Prop} {e : ε} : SimV view P (.error e) (.error e) :=
  ⟨rfl, nofun⟩

theorem SimV.map {τ β : Type} {view : σ → α} {P : σ → Prop} {r : Except ε σ} {a : Except ε α}
    (h : SimV view P r a) (C : σ → τ) (D : α → β) {viewT : τ → β} {Q : τ → Prop}
    (hv : ∀ s, viewT (C s) = D (view s)) (hP : ∀ s, P s → Q (C s)) : SimV viewT Q (r.map C) (a.map D) := by
  obtain ⟨rfl, h2⟩ := h
  cases r with
  | error e => exact .error
  | ok s => exact .ok ⟨hv s, hP s (h2 s rfl)⟩

variable {step} in
theorem stepsM_sim {astep : α → Nat → Except ε α} (view : σ → α) (Inv : σ → List Nat → Prop)
    (h : ∀ s c rest, Inv s (c :: rest) → SimV view (Inv · rest) (step s c) (astep (view s) c))
    (s : σ) (cs rest : List Nat) (hI : Inv s (cs ++ rest)) :
    SimV view (Inv · rest) (stepsM step s cs) (stepsM astep (view s) cs) := by
  induction cs generalizing s with
  | nil => exact .ok ⟨rfl, hI⟩
  | cons c cs ih =>
    obtain ⟨h1, h2⟩ := h s c (cs ++ rest) hI
    simp only [stepsM, ← h1]
    cases hs : step s c with
    | error e => exact .error
    | ok s1 => exact ih s1 (h2 s1 hs)

/-- along the loop: a property `P` that every accepted byte establishes, a key `k` it keeps, a measure `m` it raises by
    at most one -/
theorem stepsM_grow {κ : Type} (P : σ → Prop) (k : σ → κ) (m : σ → Nat)
    (h : ∀ s s' c, step s c = .ok s' → P s' ∧ k s' = k s ∧ m s' ≤ m s + 1)
    (s s' : σ) (cs : List Nat) (hP : P s) (hs : stepsM step s cs = .ok s') :
    P s' ∧ k s' = k s ∧ m s' ≤ m s + cs.length := by
  induction cs generalizing s with
  | nil => cases hs; exact ⟨hP, rfl, Nat.le_refl _⟩
  | cons c cs ih =>
    simp only [stepsM] at hs
    cases h1 : step s c with
    | error e => rw [h1] at hs; cases hs
    | ok s1 =>
      rw [h1] at hs
      obtain ⟨g0, g1, g2⟩ := h s s1 c h1
      obtain ⟨i0, i1, i2⟩ := ih s1 g0 hs
      exact ⟨i0, i1.trans g1, by simp only [List.length_cons]; omega⟩
end

theorem _root_.Decstr.Model.FiniteParser.steps_eq (p : FiniteParser) (cs : List Nat) : p.steps cs = stepsM FiniteParser.step p cs := by
  induction cs generalizing p with
  | nil => rfl
  | cons c cs ih =>
    simp only [FiniteParser.steps, stepsM, ih]
    cases p.step c <;> rfl

theorem _root_.Decstr.Model.InfinityParser.steps_eq (p : InfinityParser) (cs : List Nat) :
    p.steps cs = stepsM InfinityParser.step p cs := by
  induction cs generalizing p with
  | nil => rfl
  | cons c cs ih =>
    simp only [InfinityParser.steps, stepsM, ih]
    cases p.step c <;> rfl

theorem _root_.Decstr.Model.NanParser.steps_eq (p : NanParser) (cs : List Nat) : p.steps cs = stepsM NanParser.step p cs := by
  induction cs generalizing p with
  | nil => rfl
  | cons c cs ih =>
    simp only [NanParser.steps, stepsM, ih]
    cases p.step c <;> rfl

theorem FiniteParser.steps_append (p : FiniteParser) (a b : List Nat) :
    p.steps (a ++ b) = match p.steps a with
      | .ok p' => p'.steps b
      | .error e => .error e := by
  simp only [FiniteParser.steps_eq, stepsM_append]
  cases stepsM FiniteParser.step p a <;> rfl

theorem InfinityParser.steps_append (p : InfinityParser) (a b : List Nat) :
    p.steps (a ++ b) = match p.steps a with
      | .ok p' => p'.steps b
      | .error e => .error e := by
  simp only [InfinityParser.steps_eq, stepsM_append]
  cases stepsM InfinityParser.step p a <;> rfl

theorem NanParser.steps_append (p : NanParser) (a b : List Nat) :
    p.steps (a ++ b) = match p.steps a with
      | .ok p' => p'.steps b
      | .error e => .error e := by
  simp only [NanParser.steps_eq, stepsM_append]
  cases stepsM NanParser.step p a <;> rfl

theorem put_kind (b : TextBuf) (c : Nat) : (b.put c).kind = b.kind := by
  unfold TextBuf.put; split <;> rfl

theorem put_str {b : TextBuf} (h : b.kind = .str) (c : Nat) : b.put c = { b with idx := b.idx + 1 } := by
  simp [TextBuf.put, h]

theorem slice_eq_nil (l : List Nat) (r : Range) (h : r.start = r.stop) : slice l r = [] := by
  simp [slice, h]

theorem slice_self (txt : List Nat) (a : Nat) : slice txt ⟨a, a⟩ = [] := slice_eq_nil _ _ rfl

theorem slice_snoc_get (txt : List Nat) (a i c : Nat) (h : a ≤ i) (hc : txt[i]? = some c) :
    slice txt ⟨a, i + 1⟩ = slice txt ⟨a, i⟩ ++ [c] := by
  simp only [slice]
  rw [Nat.succ_sub h, List.take_add_one, List.getElem?_drop, Nat.add_sub_cancel' h, hc]
  rfl

theorem slice_ne_nil (txt : List Nat) (a b : Nat) (h1 : a < b) (h2 : b ≤ txt.length) : slice txt ⟨a, b⟩ ≠ [] := by
  rw [slice, ← List.length_pos_iff, List.length_take, List.length_drop]
  exact Nat.lt_min.2 ⟨Nat.sub_pos_of_lt h1, Nat.sub_pos_of_lt (Nat.lt_of_lt_of_le h1 h2)⟩

theorem slice_append_of_le (l m : List Nat) (r : Range) (h : r.stop ≤ l.length) :
    slice (l ++ m) r = slice l r := by
  simp only [slice, ← List.drop_take, List.take_append_of_le_length h]

theorem slice_snoc (l : List Nat) (c s : Nat) (hs : s ≤ l.length) :
    slice (l ++ [c]) ⟨s, l.length + 1⟩ = slice l ⟨s, l.length⟩ ++ [c] := by
  rw [slice_snoc_get _ s _ c hs List.getElem?_concat_length, slice_append_of_le _ _ _ (Nat.le_refl _)]

theorem slice_length (l : List Nat) (r : Range) (h : r.stop ≤ l.length) :
    (slice l r).length = r.stop - r.start := by
  rw [slice, List.length_take, List.length_drop]
  exact Nat.min_eq_left (Nat.sub_le_sub_right h _)

theorem slice_take (l : List Nat) (n : Nat) (r : Range) (h : r.stop ≤ n) :
    slice (l.take n) r = slice l r := by
  simp only [slice, ← List.drop_take, List.take_take, Nat.min_eq_left h]

/-- the bytes the buffer has accounted for: the consumed prefix of a borrowed string, or the stored text -/
def seen (b : TextBuf) : List Nat :=
  match b.kind with
  | .str => b.text.take b.idx
  | _ => b.text

variable {txt : List Nat}

/-- a borrowed string buffer holds `txt` and is positioned so that `rest` is what is still to come (nothing is asked of
    the copying buffers) -/
def Tracks (txt : List Nat) (b : TextBuf) (rest : List Nat) : Prop :=
  b.kind = .str → b.text = txt ∧ ∃ pre, txt = pre ++ rest ∧ b.idx = pre.length

theorem tracks_of_ne_str (b : TextBuf) (rest : List Nat) (h : b.kind ≠ .str) : Tracks txt b rest :=
  fun h' => absurd h' h

theorem pos_put (b : TextBuf) (c : Nat) : (b.put c).pos = b.pos + 1 := by
  obtain ⟨k, t, i⟩ := b
  cases k <;> simp [TextBuf.put, TextBuf.pos]

theorem succ_eq_pos_put {b : TextBuf} {n : Nat} (c : Nat) (h : n = b.pos) : n + 1 = (b.put c).pos :=
  h ▸ (pos_put b c).symm

theorem pos_eq_seen_length {b : TextBuf} {rest : List Nat} (h : Tracks txt b rest) : b.pos = (seen b).length := by
  obtain ⟨k, t, i⟩ := b
  cases k
  · obtain ⟨h0, pre, h1, h2⟩ := h rfl
    simp only at h0 h2
    subst h0 h1 h2
    simp [TextBuf.pos, seen]
  · rfl
  · rfl

/-- for a borrowed string the byte written is irrelevant: only the index moves -/
theorem put_seen {b : TextBuf} {c : Nat} {rest : List Nat} (c' : Nat) (h : Tracks txt b (c :: rest)) :
    Tracks txt (b.put c') rest ∧ seen (b.put c') = seen b ++ [if b.kind = .str then c else c'] := by
  obtain ⟨k, t, i⟩ := b
  cases k
  · obtain ⟨h0, pre, h1, h2⟩ := h rfl
    simp only at h0 h2
    subst h0 h1 h2
    exact ⟨fun _ => ⟨rfl, pre ++ [c], (List.append_assoc pre [c] rest).symm, (List.length_append (as := pre) (bs := [c])).symm⟩,
      (List.take_length_add_append 1).trans (congrArg (· ++ [c]) List.take_left.symm)⟩
  · exact ⟨nofun, rfl⟩
  · exact ⟨nofun, rfl⟩

theorem tracks_put_any {b : TextBuf} {c : Nat} {rest : List Nat} (c' : Nat) (h : Tracks txt b (c :: rest)) :
    Tracks txt (b.put c') rest := (put_seen c' h).1

theorem slice_text_eq_seen (b : TextBuf) (r : Range) (h : r.stop ≤ b.pos) :
    slice b.text r = slice (seen b) r := by
  obtain ⟨k, t, i⟩ := b
  cases k
  · simp only [TextBuf.pos] at h
    simp only [seen]
    rw [slice_take _ _ _ h]
  · rfl
  · rfl

theorem text_length_put (b : TextBuf) (c : Nat) : (b.put c).text.length ≤ b.text.length + 1 := by
  obtain ⟨k, t, i⟩ := b
  cases k <;> simp [TextBuf.put]

theorem slice_seen_put {b : TextBuf} {c : Nat} {rest : List Nat} (c' : Nat) (hT : Tracks txt b (c :: rest)) (r : Range)
    (h : r.stop ≤ b.pos) : slice (seen (b.put c')) r = slice (seen b) r := by
  rw [(put_seen c' hT).2, slice_append_of_le _ _ _ (pos_eq_seen_length hT ▸ h)]

theorem slice_seen_put_snoc {b : TextBuf} {c : Nat} {rest : List Nat} (hT : Tracks txt b (c :: rest)) (r : Range)
    (hs : r.start ≤ r.stop) (he : r.stop = b.pos) :
    slice (seen (b.put c)) ⟨r.start, r.stop + 1⟩ = slice (seen b) r ++ [c] := by
  obtain ⟨s, e⟩ := r
  simp only at hs he
  subst he
  rw [(put_seen c hT).2, ite_self, pos_eq_seen_length hT] at *
  exact slice_snoc _ _ _ hs

theorem pushSigDigit_eq (b : TextBuf) (s : PSignificand) (d : Nat) (h : s.range.stop = b.pos) :
    b.pushSignificandDigit s d = (b.put d, { s with range := ⟨s.range.start, s.range.stop + 1⟩ }) := by
  obtain ⟨k, t, i⟩ := b
  cases k with
  | str => cases (show s.range.stop = i from h); rfl  -- `.str` sets `end = index`, the others do `end += 1`
  | array cap => rfl
  | vec => rfl

theorem pushPoint_eq (b : TextBuf) (s : PSignificand) (h : s.range.stop = b.pos) :
    b.pushDecimalPoint s =
      (b.put 46, { s with point := some ⟨b.pos, b.pos + 1⟩, range := ⟨s.range.start, s.range.stop + 1⟩ }) := by
  obtain ⟨k, t, i⟩ := b
  cases k with
  | str => cases (show s.range.stop = i from h); rfl
  | array cap => rfl
  | vec => rfl

theorem pushExpDigit_eq (b : TextBuf) (e : PExponent) (d : Nat) (h : e.range.stop = b.pos) :
    b.pushExponentDigit e d = (b.put d, { e with range := ⟨e.range.start, e.range.stop + 1⟩ }) := by
  obtain ⟨k, t, i⟩ := b
  cases k with
  | str => cases (show e.range.stop = i from h); rfl
  | array cap => rfl
  | vec => rfl

theorem sigPos_cases (b : TextBuf) (s : PSignificand) :
    (b.kind = .str ∧ b.significandPositive s =
        (b.put 43, { s with neg := false, range := ⟨s.range.start + 1, s.range.stop + 1⟩ })) ∨
    (b.kind ≠ .str ∧ b.significandPositive s = (b, { s with neg := false })) := by
  obtain ⟨k, t, i⟩ := b
  cases k <;> simp [TextBuf.significandPositive]

theorem tracks_sigPos (b : TextBuf) (s : PSignificand) (rest : List Nat) (h : Tracks txt b (43 :: rest)) :
    Tracks txt (b.significandPositive s).1 rest := by
  rcases sigPos_cases b s with ⟨-, e⟩ | ⟨hk, e⟩ <;> rw [e]
  · exact tracks_put_any 43 h
  · exact tracks_of_ne_str _ _ hk

theorem expPos_cases (b : TextBuf) (e : PExponent) :
    (b.kind = .str ∧ b.exponentPositive e =
        (b.put 43, { e with neg := false, range := ⟨e.range.start + 1, e.range.stop + 1⟩ })) ∨
    (b.kind ≠ .str ∧ b.exponentPositive e = (b, { e with neg := false })) := by
  obtain ⟨k, t, i⟩ := b
  cases k <;> simp [TextBuf.exponentPositive]

/-- `FiniteParser` with the recorded ranges replaced by the bytes they denote (`hasDecimal` is `frac.isSome`) -/
structure AFin where
  neg : Bool := false
  int : List Nat := []
  frac : Option (List Nat) := none
  exp : Option (Bool × List Nat) := none
  hasSign : Bool := false
  hasDigits : Bool := false
deriving Repr, DecidableEq

namespace AFin

def pushDigit (a : AFin) (c : Nat) : AFin :=
  match a.frac with
  | none => { a with int := a.int ++ [c], hasDigits := true }
  | some f => { a with frac := some (f ++ [c]), hasDigits := true }

def step (a : AFin) (c : Nat) : Except ParseErr AFin :=
  match a.exp with
  | none =>
    if isDigit c then .ok (a.pushDigit c)
    else if c = 45 && !a.hasSign && !a.hasDigits && !a.frac.isSome then .ok { a with neg := true, hasSign := true }
    else if c = 46 && !a.frac.isSome then .ok { a with frac := some [], hasDigits := false }
    else if (c = 101 || c = 69) && a.hasDigits then
      .ok { a with exp := some (false, []), hasSign := false, hasDigits := false }
    else if c = 43 && !a.hasSign && !a.hasDigits && !a.frac.isSome then .ok { a with neg := false, hasSign := true }
    else .error (.char c)
  | some (en, ds) =>
    if isDigit c then .ok { a with exp := some (en, ds ++ [c]), hasDigits := true }
    else if c = 45 && !a.hasSign && !a.hasDigits then .ok { a with exp := some (true, ds), hasSign := true }
    else if c = 43 && !a.hasSign && !a.hasDigits then .ok { a with exp := some (false, ds), hasSign := true }
    else .error (.char c)

def steps (a : AFin) (cs : List Nat) : Except ParseErr AFin := stepsM AFin.step a cs

end AFin

/-- the integer digits of a significand record, read in `L`: up to the point if there is one -/
def sigInt (L : List Nat) (sig : PSignificand) : List Nat :=
  match sig.point with
  | some pt => slice L ⟨sig.range.start, pt.start⟩
  | none => slice L sig.range

/-- its fractional digits, from behind the point; `none` without a point -/
def sigFrac (L : List Nat) (sig : PSignificand) : Option (List Nat) :=
  sig.point.map fun pt => slice L ⟨pt.stop, sig.range.stop⟩

/-- each range read in `seen p.buf`; `hasDecimal` has no field of its own, it is `frac.isSome` (`InvF.dec`) -/
def viewF (p : FiniteParser) : AFin :=
  { neg := p.sig.neg
    int := sigInt (seen p.buf) p.sig
    frac := sigFrac (seen p.buf) p.sig
    exp := p.exp.map fun e => (e.neg, slice (seen p.buf) e.range)
    hasSign := p.hasSign
    hasDigits := p.hasDigits }

/-- the ranges of a `FiniteParser` are in step with its buffer -/
structure InvF (p : FiniteParser) : Prop where
  dec : p.hasDecimal = p.sig.point.isSome
  le : p.sig.range.start ≤ p.sig.range.stop
  pt : ∀ pt, p.sig.point = some pt →
    p.sig.range.start ≤ pt.start ∧ pt.stop = pt.start + 1 ∧ pt.stop ≤ p.sig.range.stop
  stop_le : p.sig.range.stop ≤ p.buf.pos
  exp_none : p.exp = none → p.sig.range.stop = p.buf.pos ∧
    (p.hasDigits = false → p.hasDecimal = false → p.sig.range.start = p.sig.range.stop)
  exp_some : ∀ {e}, p.exp = some e → e.range.start ≤ e.range.stop ∧ e.range.stop = p.buf.pos ∧
    (p.hasDigits = false → e.range.start = e.range.stop)

theorem invF_begin (b : TextBuf) : InvF (FiniteParser.begin b) :=
  ⟨rfl, Nat.le_refl _, nofun, Nat.le_refl _, fun _ => ⟨rfl, fun _ _ => rfl⟩, nofun⟩

theorem viewF_begin (b : TextBuf) : viewF (FiniteParser.begin b) = {} := by
  simp [viewF, sigInt, sigFrac, FiniteParser.begin, TextBuf.beginSignificand, slice_eq_nil]

theorem InvF.point_none {p : FiniteParser} (hI : InvF p) (hd : p.hasDecimal = false) : p.sig.point = none := by
  cases h : p.sig.point with
  | none => rfl
  | some pt => exact Bool.noConfusion (hd.symm.trans (hI.dec.trans (congrArg Option.isSome h)))

theorem InvF.point_le {p : FiniteParser} (hI : InvF p) {pt : Range} (hp : p.sig.point = some pt) :
    pt.start ≤ p.buf.pos :=
  Nat.le_trans (Nat.le_of_succ_le (Nat.le_trans (Nat.le_of_eq (hI.pt pt hp).2.1.symm) (hI.pt pt hp).2.2)) hI.stop_le

theorem InvF.sig_congr {p : FiniteParser} (hI : InvF p) {L L' : List Nat}
    (h : ∀ r : Range, r.stop ≤ p.buf.pos → slice L' r = slice L r) :
    sigInt L' p.sig = sigInt L p.sig ∧ sigFrac L' p.sig = sigFrac L p.sig := by
  have hn := hI.stop_le
  unfold sigInt sigFrac
  cases hp : p.sig.point with
  | none => exact ⟨h _ hn, rfl⟩
  | some pt => exact ⟨h ⟨_, pt.start⟩ (hI.point_le hp), congrArg some (h ⟨_, _⟩ hn)⟩

theorem pushSigDigit_view {p : FiniteParser} {c : Nat} {rest : List Nat} (hI : InvF p) (he : p.exp = none)
    (hT : Tracks txt p.buf (c :: rest)) :
    viewF (p.pushSignificandDigit c) = (viewF p).pushDigit c ∧ InvF (p.pushSignificandDigit c) ∧
      Tracks txt (p.pushSignificandDigit c).buf rest := by
  have hstop := (hI.exp_none he).1
  simp only [FiniteParser.pushSignificandDigit, pushSigDigit_eq p.buf p.sig c hstop]
  have hstop' := succ_eq_pos_put c hstop
  refine ⟨?_, ⟨hI.dec, Nat.le_succ_of_le hI.le, fun pt h => ?_, Nat.le_of_eq hstop', fun _ => ⟨hstop', nofun⟩,
    fun h => nomatch he.symm.trans h⟩, tracks_put_any _ hT⟩
  · simp only [viewF, sigInt, sigFrac, AFin.pushDigit, he, Option.map_none]
    cases hp : p.sig.point with
    | none => simp only [Option.map_none, slice_seen_put_snoc hT _ hI.le hstop]
    | some pt =>
      obtain ⟨h1, h2, h3⟩ := hI.pt pt hp
      simp only [Option.map_some, slice_seen_put c hT ⟨_, pt.start⟩ (hI.point_le hp),
        slice_seen_put_snoc hT ⟨pt.stop, _⟩ h3 hstop]
  · obtain ⟨h1, h2, h3⟩ := hI.pt pt h
    exact ⟨h1, h2, Nat.le_succ_of_le h3⟩

/-- a sign before any digit or point: the significand's range is empty at the position and moves past the sign -/
theorem sigSign_view {p : FiniteParser} {c : Nat} {rest : List Nat} (ng : Bool) (c' : Nat) (hI : InvF p)
    (he : p.exp = none) (hg : p.hasDigits = false) (hd : p.hasDecimal = false) (hT : Tracks txt p.buf (c :: rest)) :
    let p' : FiniteParser :=
      { p with buf := p.buf.put c', hasSign := true
               sig := { p.sig with neg := ng, range := ⟨p.sig.range.start + 1, p.sig.range.stop + 1⟩ } }
    viewF p' = { viewF p with neg := ng, hasSign := true } ∧ InvF p' ∧ Tracks txt p'.buf rest := by
  have hpn := hI.point_none hd
  obtain ⟨hstop, heq⟩ := hI.exp_none he
  have heq := heq hg hd
  have hstop' := succ_eq_pos_put c' hstop
  refine ⟨?_, ⟨hI.dec, Nat.succ_le_succ hI.le, (fun pt h => by cases hpn.symm.trans h), Nat.le_of_eq hstop',
    fun _ => ⟨hstop', fun _ _ => congrArg (· + 1) heq⟩, fun h => nomatch he.symm.trans h⟩, tracks_put_any c' hT⟩
  simp only [viewF, sigInt, sigFrac, hpn, he, Option.map_none, slice_eq_nil _ p.sig.range heq,
    slice_eq_nil _ ⟨_, _⟩ (congrArg (· + 1) heq)]

theorem sigPositive_view {p : FiniteParser} {c : Nat} {rest : List Nat} (hI : InvF p) (he : p.exp = none)
    (hg : p.hasDigits = false) (hd : p.hasDecimal = false) (hT : Tracks txt p.buf (c :: rest)) :
    viewF p.significandPositive = { viewF p with neg := false, hasSign := true } ∧ InvF p.significandPositive ∧
      Tracks txt p.significandPositive.buf rest := by
  rcases sigPos_cases p.buf p.sig with ⟨hk, e⟩ | ⟨hk, e⟩ <;> simp only [FiniteParser.significandPositive, e]
  · exact sigSign_view false 43 hI he hg hd hT
  · refine ⟨?_, ⟨hI.dec, hI.le, hI.pt, hI.stop_le, hI.exp_none, hI.exp_some⟩, tracks_of_ne_str _ _ hk⟩
    simp only [viewF, sigInt, sigFrac, hI.point_none hd, he, Option.map_none]

theorem pushPoint_view {p : FiniteParser} {c : Nat} {rest : List Nat} (hI : InvF p) (he : p.exp = none)
    (hd : p.hasDecimal = false) (hT : Tracks txt p.buf (c :: rest)) :
    viewF p.pushDecimalPoint = { viewF p with frac := some [], hasDigits := false } ∧ InvF p.pushDecimalPoint ∧
      Tracks txt p.pushDecimalPoint.buf rest := by
  have hpn := hI.point_none hd
  have hstop := (hI.exp_none he).1
  simp only [FiniteParser.pushDecimalPoint, pushPoint_eq p.buf p.sig hstop]
  have hstop' := succ_eq_pos_put 46 hstop
  refine ⟨?_, ⟨rfl, Nat.le_succ_of_le hI.le, ?_, Nat.le_of_eq hstop', fun _ => ⟨hstop', fun _ h => nomatch h⟩,
    fun h => nomatch he.symm.trans h⟩, tracks_put_any 46 hT⟩
  · simp only [viewF, sigInt, sigFrac, hpn, he, Option.map_some, Option.map_none, ← hstop,
      slice_seen_put 46 hT ⟨_, p.sig.range.stop⟩ (Nat.le_of_eq hstop),
      slice_eq_nil _ ⟨p.sig.range.stop + 1, _⟩ rfl]
  · intro pt h
    cases h
    exact ⟨hstop ▸ hI.le, rfl, Nat.le_of_eq (congrArg (· + 1) hstop.symm)⟩

/-- once there is an exponent the significand record is behind the position: a byte put leaves it and what it
    denotes alone, so only the exponent's part of view and invariant is left to show (`hr`: the new exponent range
    ends at the new position and is empty while no digit has been read) -/
theorem exp_put_view {p : FiniteParser} {c : Nat} {rest : List Nat} (e' : PExponent) (c' : Nat)
    (sgn dig : Bool) (hI : InvF p) (hT : Tracks txt p.buf (c :: rest))
    (hr : e'.range.start ≤ e'.range.stop ∧ e'.range.stop = p.buf.pos + 1 ∧
      (dig = false → e'.range.start = e'.range.stop)) :
    let p' : FiniteParser := { p with buf := p.buf.put c', exp := some e', hasSign := sgn, hasDigits := dig }
    viewF p' = { viewF p with exp := some (e'.neg, slice (seen (p.buf.put c')) e'.range), hasSign := sgn,
                              hasDigits := dig } ∧ InvF p' ∧ Tracks txt p'.buf rest := by
  obtain ⟨hi, hf⟩ := hI.sig_congr (slice_seen_put c' hT)
  refine ⟨?_, ⟨hI.dec, hI.le, hI.pt, pos_put p.buf c' ▸ Nat.le_succ_of_le hI.stop_le, nofun,
    fun h => by cases h; rw [pos_put]; exact hr⟩, tracks_put_any c' hT⟩
  simp only [viewF, hi, hf, Option.map_some]

theorem beginExponent_view {p : FiniteParser} {c : Nat} {rest : List Nat} (hI : InvF p)
    (hT : Tracks txt p.buf (c :: rest)) :
    viewF p.beginExponent = { viewF p with exp := some (false, []), hasSign := false, hasDigits := false } ∧
      InvF p.beginExponent ∧ Tracks txt p.beginExponent.buf rest := by
  rw [← slice_eq_nil (seen (p.buf.put 101)) ⟨(p.buf.put 101).pos, _⟩ rfl]
  exact exp_put_view ⟨false, ⟨_, _⟩⟩ 101 false false hI hT ⟨Nat.le_refl _, pos_put _ _, fun _ => rfl⟩

theorem expDigit_view {p : FiniteParser} {e : PExponent} {c : Nat} {rest : List Nat} (hI : InvF p)
    (he : p.exp = some e) (hT : Tracks txt p.buf (c :: rest)) {b' : TextBuf} {e' : PExponent}
    (h : p.buf.pushExponentDigit e c = (b', e')) :
    let p' : FiniteParser := { p with buf := b', exp := some e', hasDigits := true }
    viewF p' = { viewF p with exp := some (e.neg, slice (seen p.buf) e.range ++ [c]), hasDigits := true } ∧
      InvF p' ∧ Tracks txt p'.buf rest := by
  obtain ⟨h1, h2, -⟩ := hI.exp_some he
  cases h.symm.trans (pushExpDigit_eq p.buf e c h2)
  rw [← slice_seen_put_snoc hT _ h1 h2]
  exact exp_put_view _ c _ true hI hT
    ⟨Nat.le_succ_of_le h1, congrArg (· + 1) h2, fun h => by cases h⟩

theorem expSign_view {p : FiniteParser} {e : PExponent} {c : Nat} {rest : List Nat} (ng : Bool) (c' : Nat)
    (hI : InvF p) (he : p.exp = some e) (hg : p.hasDigits = false) (hT : Tracks txt p.buf (c :: rest)) :
    let p' : FiniteParser :=
      { p with buf := p.buf.put c', exp := some ⟨ng, ⟨e.range.start + 1, e.range.stop + 1⟩⟩, hasSign := true }
    viewF p' = { viewF p with exp := some (ng, slice (seen p.buf) e.range), hasSign := true } ∧
      InvF p' ∧ Tracks txt p'.buf rest := by
  obtain ⟨h1, h2, h3⟩ := hI.exp_some he
  rw [slice_eq_nil _ e.range (h3 hg), ← slice_eq_nil (seen (p.buf.put c')) ⟨_, _⟩ (congrArg (· + 1) (h3 hg))]
  exact exp_put_view ⟨ng, ⟨e.range.start + 1, e.range.stop + 1⟩⟩ c' true _ hI hT
    ⟨Nat.succ_le_succ h1, congrArg (· + 1) h2, fun _ => congrArg (· + 1) (h3 hg)⟩

theorem expPositive_view {p : FiniteParser} {e : PExponent} {c : Nat} {rest : List Nat} (hI : InvF p)
    (he : p.exp = some e) (hg : p.hasDigits = false) (hT : Tracks txt p.buf (c :: rest)) {b' : TextBuf} {e' : PExponent}
    (h : p.buf.exponentPositive e = (b', e')) :
    let p' : FiniteParser := { p with buf := b', exp := some e', hasSign := true }
    viewF p' = { viewF p with exp := some (false, slice (seen p.buf) e.range), hasSign := true } ∧
      InvF p' ∧ Tracks txt p'.buf rest := by
  rcases expPos_cases p.buf e with ⟨hk, e1⟩ | ⟨hk, e1⟩ <;> cases h.symm.trans e1
  · exact expSign_view false 43 hI he hg hT
  · refine ⟨?_, ⟨hI.dec, hI.le, hI.pt, hI.stop_le, nofun, fun h => by cases h; exact hI.exp_some (e := e) he⟩,
      tracks_of_ne_str _ _ hk⟩
    simp only [viewF, Option.map_some]


theorem finite_step_view (p : FiniteParser) (c : Nat) (rest : List Nat) (hI : InvF p)
    (hT : Tracks txt p.buf (c :: rest)) :
    SimV viewF (fun p' => InvF p' ∧ Tracks txt p'.buf rest) (p.step c) ((viewF p).step c) := by
  have hfrac : (viewF p).frac.isSome = p.hasDecimal := by
    simp only [viewF, sigFrac, hI.dec, Option.isSome_map]
  have hsgn : (viewF p).hasSign = p.hasSign := rfl
  have hdig : (viewF p).hasDigits = p.hasDigits := rfl
  have hexp : (viewF p).exp = p.exp.map fun e => (e.neg, slice (seen p.buf) e.range) := rfl
  unfold AFin.step
  -- `caseN`: the N-th branch of `FiniteParser.step` in the order of its text
  fun_cases FiniteParser.step p c
  -- `*`: the branch's guards and `hexp`, `hfrac`, `hsgn`, `hdig`, which turn the abstract guards into the concrete ones
  all_goals simp only [*, Option.map_none, Option.map_some, ↓reduceIte, Bool.false_eq_true]
  case case1 he _ => exact .ok (pushSigDigit_view hI he hT)
  case case2 he _ h =>
    simp only [Bool.and_eq_true, Bool.not_eq_true', decide_eq_true_eq] at h
    exact .ok (by simpa only [hexp, he, hsgn, hdig, Option.map_none, FiniteParser.significandNegative,
      TextBuf.significandNegative] using sigSign_view true 45 hI he h.1.2 h.2 hT)
  case case3 he _ _ h =>
    simp only [Bool.and_eq_true, Bool.not_eq_true', decide_eq_true_eq] at h
    exact .ok (by simpa only [hexp, he, hsgn, hdig, Option.map_none] using pushPoint_view hI he h.2 hT)
  case case4 he _ _ _ _ => exact .ok (beginExponent_view hI hT)
  case case5 he _ _ _ _ h =>
    simp only [Bool.and_eq_true, Bool.not_eq_true', decide_eq_true_eq] at h
    exact .ok (by simpa only [hexp, he, hsgn, hdig, Option.map_none] using sigPositive_view hI he h.1.2 h.2 hT)
  case case6 => exact .error
  case case7 e he _ b e' heq => exact .ok (expDigit_view hI he hT heq)
  case case8 e he _ h b e' heq =>
    simp only [Bool.and_eq_true, Bool.not_eq_true', decide_eq_true_eq] at h
    cases heq
    exact .ok (expSign_view true 45 hI he h.2 hT)
  case case9 e he _ _ h b e' heq =>
    simp only [Bool.and_eq_true, Bool.not_eq_true', decide_eq_true_eq] at h
    exact .ok (expPositive_view hI he h.2 hT heq)
  case case10 => exact .error

theorem finite_steps_view (p : FiniteParser) (cs rest : List Nat) (hI : InvF p)
    (hT : Tracks txt p.buf (cs ++ rest)) :
    SimV viewF (fun p' => InvF p' ∧ Tracks txt p'.buf rest) (p.steps cs) ((viewF p).steps cs) := by
  simp only [FiniteParser.steps_eq]
  exact stepsM_sim viewF (fun p rest => InvF p ∧ Tracks txt p.buf rest)
    (fun p c rest h => finite_step_view p c rest h.1 h.2) p cs rest ⟨hI, hT⟩

/-- where the integer digits lie: up to the point if there is one, else the whole significand range -/
def intR (s : PSignificand) : Range :=
  match s.point with
  | some pt => ⟨s.range.start, pt.start⟩
  | none => s.range

/-- where the fraction digits lie: after the point; without a point any empty range will do, `⟨0, 0⟩` is taken -/
def fracR (s : PSignificand) : Range :=
  match s.point with
  | some pt => ⟨pt.stop, s.range.stop⟩
  | none => ⟨0, 0⟩

/-- a `FiniteParser` created by `DecimalParser` over the borrowed string `txt`, in terms of its ranges alone: `InvF` with
    the cursor for the position, the first digit read (`started`), every range a run of ASCII digits that is non-empty
    once its phase is over.  The proofs read these facts off the abstract state instead (`AFin.Live` of `viewF f`, in
    `ParserRefine`), where there is no index arithmetic to do. -/
structure FinInv (txt : List Nat) (f : FiniteParser) : Prop where
  kind : f.buf.kind = .str
  text : f.buf.text = txt
  idx_le : f.buf.idx ≤ txt.length
  stop_le : f.sig.range.stop ≤ f.buf.idx
  -- before the exponent the significand range is the one being extended: it ends at the cursor
  stop_eq : f.exp = none → f.sig.range.stop = f.buf.idx
  dec : f.hasDecimal = f.sig.point.isSome
  int_ne : f.sig.point = none → f.sig.range.start < f.sig.range.stop
  pt : ∀ pt, f.sig.point = some pt → f.sig.range.start < pt.start ∧ pt.stop = pt.start + 1 ∧ pt.stop ≤ f.sig.range.stop
  -- `DecimalParser` creates the parser with its first digit
  started : f.exp = none → f.hasDecimal = false → f.hasDigits = true
  -- the point and the marker reset `hasDigits`: once it is set again, or past the marker, a fraction digit was read
  frac_ne : ∀ pt, f.sig.point = some pt → (f.hasDigits = true ∨ f.exp.isSome = true) → pt.stop < f.sig.range.stop
  -- the exponent range ends at the cursor and stays empty until `hasDigits` (reset by the marker) is set again
  exp : ∀ e, f.exp = some e → e.range.start ≤ e.range.stop ∧ e.range.stop = f.buf.idx ∧
      (f.hasDigits = false → e.range.start = e.range.stop) ∧ (f.hasDigits = true → e.range.start < e.range.stop)
  ascii_int : AsciiDigits (slice txt (intR f.sig))
  ascii_frac : AsciiDigits (slice txt (fracR f.sig))
  ascii_exp : ∀ e, f.exp = some e → AsciiDigits (slice txt e.range)

/-! ## InfinityParser, abstractly (the buffer plays no part) -/

structure AInf where
  expecting : List Nat := kwInfinity
  neg : Bool := false
deriving Repr, DecidableEq

namespace AInf
def atStart (a : AInf) : Bool := a.expecting.length == kwInfinity.length
def step (a : AInf) (c : Nat) : Except ParseErr AInf :=
  if c = 45 && a.atStart then .ok { a with neg := true }
  else if c = 43 && a.atStart then .ok { a with neg := false }
  else match a.expecting with
    | e :: _ => if eqIgnoreCase e c then .ok { a with expecting := a.expecting.drop 1 } else .error (.char c)
    | [] => .error (.char c)
def steps (a : AInf) : List Nat → Except ParseErr AInf
  | [] => .ok a
  | c :: cs => match a.step c with
    | .ok a' => a'.steps cs
    | .error e => .error e
end AInf

/-- `AInf.step` keeps the sign arms of `InfinityParser.step`, which `SInf.step` drops (dead once `DecimalParser` has taken
    the first letter: `AInf.step_toSem`) -/
def viewI (p : InfinityParser) : AInf := ⟨p.expecting, p.neg⟩

theorem infinity_step_view (p : InfinityParser) (c : Nat) : (p.step c).map viewI = (viewI p).step c := by
  have hAt : (viewI p).atStart = p.atStart := rfl
  have hEx : (viewI p).expecting = p.expecting := rfl
  unfold AInf.step
  -- `*`: the branch's guards with `hAt`, `hEx`; case3 is the keyword letter, where `*` has rewritten `p.expecting`
  fun_cases InfinityParser.step p c <;> simp only [*, ↓reduceIte, Bool.false_eq_true]
  case case3 hx _ => rw [← hx]; rfl
  all_goals rfl

theorem AInf.steps_eq (a : AInf) (cs : List Nat) : a.steps cs = stepsM AInf.step a cs := by
  induction cs generalizing a with
  | nil => rfl
  | cons c cs ih =>
    simp only [AInf.steps, stepsM, ih]
    cases a.step c <;> rfl

theorem infinity_steps_view (p : InfinityParser) (cs : List Nat) :
    (p.steps cs).map viewI = (viewI p).steps cs := by
  rw [InfinityParser.steps_eq, AInf.steps_eq]
  exact (stepsM_sim viewI (fun _ _ => True) (fun p c _ _ => ⟨infinity_step_view p c, fun _ _ => trivial⟩)
    p cs [] trivial).1

structure ANan where
  expecting : List Nat := kwSnan
  signaling : Bool := false
  neg : Bool := false
  payload : Option (List Nat) := none
deriving Repr, DecidableEq

namespace ANan
def atStart (a : ANan) : Bool := a.expecting.length == kwSnan.length
def isExpecting (a : ANan) (c : Nat) : Bool :=
  match a.expecting with
  | e :: _ => eqIgnoreCase e c
  | [] => false
def step (a : ANan) (c : Nat) : Except ParseErr ANan :=
  if isDigit c && a.payload.isSome && a.isExpecting 41 then .ok { a with payload := a.payload.map (· ++ [c]) }
  else if c = 45 && a.atStart then .ok { a with neg := true }
  else if c = 43 && a.atStart then .ok { a with neg := false }
  else if (c = 110 || c = 78) && a.atStart then .ok { a with signaling := false, expecting := a.expecting.drop 2 }
  else if (c = 115 || c = 83) && a.atStart then .ok { a with signaling := true, expecting := a.expecting.drop 1 }
  else if c = 40 && a.isExpecting 40 then .ok { a with expecting := a.expecting.drop 1, payload := some [] }
  else if c = 41 && a.isExpecting 41 then .ok { a with expecting := a.expecting.drop 1 }
  else if a.isExpecting c then .ok { a with expecting := a.expecting.drop 1 }
  else .error (.char c)
def steps (a : ANan) (cs : List Nat) : Except ParseErr ANan := stepsM ANan.step a cs
end ANan

/-- the payload range read in `seen p.buf` -/
def viewN (p : NanParser) : ANan :=
  ⟨p.expecting, p.signaling, p.neg, p.payload.map fun s => slice (seen p.buf) s.range⟩

/-- what is left of the keyword `snan()` -/
def NanSuffix (l : List Nat) : Prop := l <:+ kwSnan

theorem nanSuffix_cases (l : List Nat) (h : NanSuffix l) :
    l = kwSnan ∨ l = [110, 97, 110, 40, 41] ∨ l = [97, 110, 40, 41] ∨ l = [110, 40, 41] ∨ l = [40, 41] ∨
      l = [41] ∨ l = [] := by
  simpa [NanSuffix, kwSnan, List.suffix_cons_iff] using h

theorem nanSuffix_drop (n : Nat) (l : List Nat) (h : NanSuffix l) : NanSuffix (l.drop n) :=
  (List.drop_suffix n l).trans h

theorem nan_isExpecting41 (p : NanParser) (hI : NanSuffix p.expecting) (h : p.isExpecting 41 = true) :
    p.expecting = [41] := by
  unfold NanParser.isExpecting at h
  rcases nanSuffix_cases _ hI with e | e | e | e | e | e | e <;> rw [e] at h ⊢ <;> revert h <;> decide

theorem nan_isExpecting40 (p : NanParser) (hI : NanSuffix p.expecting) (h : p.isExpecting 40 = true) :
    p.expecting = [40, 41] := by
  unfold NanParser.isExpecting at h
  rcases nanSuffix_cases _ hI with e | e | e | e | e | e | e <;> rw [e] at h ⊢ <;> revert h <;> decide

structure InvN (p : NanParser) : Prop where
  suf : NanSuffix p.expecting
  pay : ∀ s, p.payload = some s → s.neg = false ∧ s.point = none ∧ s.range.start ≤ s.range.stop ∧
      ((p.expecting = [41] ∧ s.range.stop = p.buf.pos) ∨ (p.expecting = [] ∧ s.range.stop ≤ p.buf.pos))

theorem InvN.stop_le {p : NanParser} {s : PSignificand} (hI : InvN p) (h : p.payload = some s) :
    s.range.stop ≤ p.buf.pos := by
  obtain ⟨-, -, -, h4 | h4⟩ := hI.pay s h
  · exact Nat.le_of_eq h4.2
  · exact h4.2

/-- `hp`: once there is a payload the only byte stepped over in this way is the closing `)` -/
theorem nan_advance_view {p : NanParser} {c : Nat} {rest : List Nat} (ex' : List Nat) (sg ng : Bool) (hI : InvN p)
    (hT : Tracks txt p.buf (c :: rest)) (hs : NanSuffix ex') (hp : p.payload = none ∨ ex' = []) :
    let p' : NanParser := { p with expecting := ex', signaling := sg, neg := ng, buf := p.buf.put c }
    viewN p' = { viewN p with expecting := ex', signaling := sg, neg := ng } ∧ InvN p' ∧ Tracks txt p'.buf rest := by
  refine ⟨?_, ⟨hs, fun s h => ?_⟩, tracks_put_any _ hT⟩
  · simp only [viewN, ANan.mk.injEq, true_and]
    cases h : p.payload with
    | none => rfl
    | some s => exact congrArg some (slice_seen_put c hT s.range (hI.stop_le h))
  · obtain ⟨h1, h2, h3, -⟩ := hI.pay s h
    exact ⟨h1, h2, h3, .inr ⟨hp.resolve_left (fun e => nomatch e.symm.trans h),
      pos_put p.buf c ▸ Nat.le_succ_of_le (hI.stop_le h)⟩⟩

theorem nan_digit_view {p : NanParser} {s : PSignificand} {c : Nat} {rest : List Nat} (hI : InvN p)
    (hT : Tracks txt p.buf (c :: rest)) (hp : p.payload = some s) (h41 : p.isExpecting 41 = true)
    {b' : TextBuf} {s' : PSignificand} (h : p.buf.pushSignificandDigit s c = (b', s')) :
    let p' : NanParser := { p with buf := b', payload := some s' }
    viewN p' = { viewN p with payload := (viewN p).payload.map (· ++ [c]) } ∧ InvN p' ∧ Tracks txt p'.buf rest := by
  have hex := nan_isExpecting41 p hI.suf h41
  obtain ⟨h1, h2, h3, h4 | h4⟩ := hI.pay s hp
  · cases h.symm.trans (pushSigDigit_eq p.buf s c h4.2)
    refine ⟨?_, ⟨hI.suf, fun s' h' => ?_⟩, tracks_put_any _ hT⟩
    · simp only [viewN, hp, Option.map_some, slice_seen_put_snoc hT _ h3 h4.2]
    · cases h'
      exact ⟨h1, h2, Nat.le_succ_of_le h3, .inl ⟨hex, succ_eq_pos_put c h4.2⟩⟩
  · rw [hex] at h4; cases h4.1

theorem nan_open_view {p : NanParser} {c : Nat} {rest : List Nat} (hI : InvN p)
    (hT : Tracks txt p.buf (c :: rest)) (h40 : p.isExpecting 40 = true) :
    let p' : NanParser := { p with expecting := p.expecting.drop 1, buf := p.buf.advanceSignificand c,
                                   payload := some (p.buf.advanceSignificand c).beginSignificand }
    viewN p' = { viewN p with expecting := (viewN p).expecting.drop 1, payload := some [] } ∧ InvN p' ∧
      Tracks txt p'.buf rest := by
  refine ⟨?_, ⟨nanSuffix_drop 1 _ hI.suf, fun s h => ?_⟩, tracks_put_any _ hT⟩
  · simp only [viewN, TextBuf.advanceSignificand, TextBuf.beginSignificand, Option.map_some, slice_eq_nil _ ⟨_, _⟩ rfl]
  · cases h
    exact ⟨rfl, rfl, Nat.le_refl _, .inl ⟨congrArg (List.drop 1) (nan_isExpecting40 p hI.suf h40), rfl⟩⟩

theorem nan_atStart {p : NanParser} (hI : InvN p) {g : Bool} (h : (g && p.atStart) = true) : p.payload = none := by
  have h1 := List.IsSuffix.eq_of_length hI.suf (by simpa [NanParser.atStart] using (Bool.and_eq_true_iff.1 h).2)
  cases hp : p.payload with
  | none => rfl
  | some s => obtain ⟨-, -, -, h4 | h4⟩ := hI.pay s hp <;> exact absurd (h1 ▸ h4.1) (by decide)

theorem nan_step_view (p : NanParser) (c : Nat) (rest : List Nat) (hI : InvN p)
    (hT : Tracks txt p.buf (c :: rest)) :
    SimV viewN (fun p' => InvN p' ∧ Tracks txt p'.buf rest) (p.step c) ((viewN p).step c) := by
  have hAt : (viewN p).atStart = p.atStart := rfl
  have hEx : ∀ x, (viewN p).isExpecting x = p.isExpecting x := fun _ => rfl
  have hPs : (viewN p).payload.isSome = p.payload.isSome := by simp only [viewN, Option.isSome_map]
  unfold ANan.step
  fun_cases NanParser.step p c
  case case1 h s hp b s' heq =>
    simp only [hEx, hPs, h, ↓reduceIte]
    exact .ok (nan_digit_view hI hT hp (Bool.and_eq_true_iff.1 h).2 heq)
  case case2 h hp => simp [hp] at h
  -- `*`: the branch's guards, and `hAt`, `hEx`, `hPs`, which turn the abstract guards into the concrete ones
  all_goals simp only [*, ↓reduceIte, Bool.false_eq_true]
  -- every branch but the digit and the `(` steps over the byte and moves on in `snan()` (`nan_advance_view`); at the
  -- start there is no payload yet, so nothing is asked of what is expected next
  case case3 h => exact .ok (nan_advance_view _ _ true hI hT hI.suf (.inl (nan_atStart hI h)))
  case case4 h => exact .ok (nan_advance_view _ _ false hI hT hI.suf (.inl (nan_atStart hI h)))
  case case5 h => exact .ok (nan_advance_view _ false _ hI hT (nanSuffix_drop 2 _ hI.suf) (.inl (nan_atStart hI h)))
  case case6 h => exact .ok (nan_advance_view _ true _ hI hT (nanSuffix_drop 1 _ hI.suf) (.inl (nan_atStart hI h)))
  case case7 h _ => exact .ok (nan_open_view hI hT (Bool.and_eq_true_iff.1 h).2)
  case case8 h =>
    exact .ok (nan_advance_view _ _ _ hI hT (nanSuffix_drop 1 _ hI.suf)
      (.inr (by rw [nan_isExpecting41 p hI.suf (Bool.and_eq_true_iff.1 h).2]; rfl)))
  case case9 h =>
    refine .ok (nan_advance_view _ _ _ hI hT (nanSuffix_drop 1 _ hI.suf) ?_)
    cases hp : p.payload with
    | none => exact .inl rfl
    | some s =>
      obtain ⟨-, -, -, h4 | h4⟩ := hI.pay s hp
      · exact .inr (by rw [h4.1]; rfl)
      · simp [NanParser.isExpecting, h4.1] at h
  case case10 => exact .error

theorem nan_steps_view (p : NanParser) (cs rest : List Nat) (hI : InvN p)
    (hT : Tracks txt p.buf (cs ++ rest)) :
    SimV viewN (fun p' => InvN p' ∧ Tracks txt p'.buf rest) (p.steps cs) ((viewN p).steps cs) := by
  simp only [NanParser.steps_eq]
  exact stepsM_sim viewN (fun p rest => InvN p ∧ Tracks txt p.buf rest)
    (fun p c rest h => nan_step_view p c rest h.1 h.2) p cs rest ⟨hI, hT⟩

theorem invN_new (b : TextBuf) : InvN { buf := b } :=
  ⟨List.suffix_refl _, fun s h => by cases h⟩

/-! ## the `AtStart` arm creates a sub-parser and replays the sign into it -/

/-- the sign `AtStart` holds back, as the byte it read -/
def signByte : Option Bool → List Nat
  | none => []
  | some true => [45]
  | some false => [43]

theorem finite_exp_sigPositive (p : FiniteParser) : p.significandPositive.exp = p.exp := rfl
theorem finite_exp_sigNegative (p : FiniteParser) : p.significandNegative.exp = p.exp := rfl

theorem startStep_digit (b : TextBuf) (neg : Option Bool) (c : Nat) (h : isDigit c = true) :
    DecimalParser.startStep b neg c = ((FiniteParser.begin b).steps (signByte neg ++ [c])).map .finite := by
  -- a digit in the significand is pushed; the sign replayed before it is stepped over by evaluation
  have hd (f : FiniteParser) (he : f.exp = none) : f.steps [c] = .ok (f.pushSignificandDigit c) := by
    simp only [FiniteParser.steps, FiniteParser.step, he, h, if_true]
  rw [DecimalParser.startStep, if_pos h]
  refine (congrArg (Except.map DecimalParser.finite) (?_ : _ = Except.ok _)).symm
  rcases neg with _ | _ | _
  · exact hd _ rfl
  · exact hd (FiniteParser.begin b).significandPositive (finite_exp_sigPositive _)
  · exact hd (FiniteParser.begin b).significandNegative (finite_exp_sigNegative _)

theorem startStep_nan (b : TextBuf) (neg : Option Bool) (c : Nat)
    (h : c = 115 ∨ c = 83 ∨ c = 110 ∨ c = 78) :
    DecimalParser.startStep b neg c = (({ buf := b } : NanParser).steps (signByte neg ++ [c])).map .nan := by
  rcases h with rfl | rfl | rfl | rfl <;> rcases neg with _ | _ | _ <;> rfl

theorem startStep_inf (b : TextBuf) (neg : Option Bool) (c : Nat) (h : c = 105 ∨ c = 73) :
    ∃ i, DecimalParser.startStep b neg c = .ok (.infinity i) ∧ viewI i = ⟨kwInfinity.drop 1, neg.getD false⟩ ∧
      i.buf = b.put c := by
  rcases h with rfl | rfl <;> rcases neg with _ | _ | _ <;> exact ⟨_, rfl, rfl, rfl⟩

/-! ## every step keeps the buffer kind and stores at most one byte -/

def Grow (b b' : TextBuf) : Prop := b'.kind = b.kind ∧ b'.text.length ≤ b.text.length + 1

theorem grow_refl (b : TextBuf) : Grow b b := ⟨rfl, Nat.le_succ _⟩
theorem grow_put (b : TextBuf) (c : Nat) : Grow b (b.put c) := ⟨put_kind b c, text_length_put b c⟩

theorem grow_pushSigDigit (b : TextBuf) (s : PSignificand) (d : Nat) : Grow b (b.pushSignificandDigit s d).1 := by
  obtain ⟨k, t, i⟩ := b; cases k <;> exact grow_put ⟨_, t, i⟩ d
theorem grow_pushPoint (b : TextBuf) (s : PSignificand) : Grow b (b.pushDecimalPoint s).1 := by
  obtain ⟨k, t, i⟩ := b; cases k <;> exact grow_put ⟨_, t, i⟩ 46
theorem grow_sigPos (b : TextBuf) (s : PSignificand) : Grow b (b.significandPositive s).1 := by
  rcases sigPos_cases b s with ⟨-, e⟩ | ⟨-, e⟩ <;> rw [e]
  · exact grow_put b 43
  · exact grow_refl b
theorem grow_pushExpDigit (b : TextBuf) (e : PExponent) (d : Nat) : Grow b (b.pushExponentDigit e d).1 := by
  obtain ⟨k, t, i⟩ := b; cases k <;> exact grow_put ⟨_, t, i⟩ d
theorem grow_expPos (b : TextBuf) (e : PExponent) : Grow b (b.exponentPositive e).1 := by
  rcases expPos_cases b e with ⟨-, h⟩ | ⟨-, h⟩ <;> rw [h]
  · exact grow_put b 43
  · exact grow_refl b

theorem Grow.fst {α : Type} {b b' : TextBuf} {x : α} {r : TextBuf × α} (g : Grow b r.1) (h : r = (b', x)) :
    Grow b b' := by subst h; exact g

theorem finite_step_grow (p p' : FiniteParser) (c : Nat) (h : p.step c = .ok p') : Grow p.buf p'.buf := by
  revert h; fun_cases FiniteParser.step p c <;> intro h <;> cases h
  case case1 => exact grow_pushSigDigit p.buf _ c
  case case2 => exact grow_put p.buf 45
  case case3 => exact grow_pushPoint p.buf p.sig
  case case4 => exact grow_put p.buf 101
  case case5 => exact grow_sigPos p.buf p.sig
  case case7 heq => exact (grow_pushExpDigit p.buf _ c).fst heq
  case case8 heq => cases heq; exact grow_put p.buf 45
  case case9 heq => exact (grow_expPos p.buf _).fst heq

theorem infinity_step_grow (p p' : InfinityParser) (c : Nat) (h : p.step c = .ok p') : Grow p.buf p'.buf := by
  revert h; fun_cases InfinityParser.step p c <;> intro h <;> cases h <;> exact grow_put p.buf c

theorem nan_step_grow (p p' : NanParser) (c : Nat) (h : p.step c = .ok p') : Grow p.buf p'.buf := by
  revert h; fun_cases NanParser.step p c <;> intro h <;> cases h
  case case1 heq => exact (grow_pushSigDigit p.buf _ c).fst heq
  case case2 => exact grow_refl _
  all_goals exact grow_put p.buf c

/-- with `stored` bytes accounted for in a buffer of this kind there is room for `n` more (only a fixed array can run
    out) -/
def Room (kind : BufKind) (stored n : Nat) : Prop := ∀ cap, kind = .array cap → stored + n ≤ cap

theorem Room.mono {kind : BufKind} {s n m : Nat} (h : Room kind s n) (hm : m ≤ n) : Room kind s m :=
  fun cap hc => Nat.le_trans (Nat.add_le_add_left hm s) (h cap hc)

theorem Room.grow {kind kind' : BufKind} {s s' n j : Nat} (h : Room kind s (n + j))
    (g : kind' = kind ∧ s' ≤ s + j) : Room kind' s' n :=
  fun cap hc => by have := h cap (g.1 ▸ hc); have := g.2; omega

/-- `Room` read for a buffer; Stream's `Roomy` reads it for a parser, where a sign held back counts as stored -/
def Fits (b : TextBuf) (k : Nat) : Prop := Room b.kind b.text.length k

end Decstr.Proofs
