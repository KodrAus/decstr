import Decstr.Proofs.ParserSem
import Decstr.Proofs.Grammar
/-!
# Proofs.ParserSpec — the semantic parser equals the reference recogniser: `semParse = Spec.parse`

The recogniser reads a text in phases (sign, digit run, point, digit run, exponent marker, sign, digit run, end; or a
keyword), the automaton byte by byte.  A run of digit steps is the one step `takeDigits` takes; then each phase has
one lemma: the automaton in the state the phase starts from accepts what the rest of the recogniser accepts.
-/
namespace Decstr.Proofs
open Decstr.Model Decstr.Spec

def SFin.run (s : SFin) : List Nat → Option SFin
  | [] => some s
  | c :: cs => (s.step c).bind (·.run cs)

theorem Sem.accept_fin (s : SFin) (cs : List Nat) : (Sem.fin s).accept cs = (s.run cs).bind SFin.finish := by
  induction cs generalizing s with
  | nil => rfl
  | cons c cs ih =>
    simp only [Sem.accept, SFin.run, Sem.step]
    cases s.step c with
    | none => rfl
    | some s' => simpa using ih s'

/-- digits go to the field being written: the exponent once there is one, else the fraction after the point, else the
    integer part -/
def SFin.pushDigits (s : SFin) (ds : List Nat) : SFin :=
  { match s.exp with
    | some (en, ed) => { s with exp := some (en, ed ++ ds) }
    | none => if s.hasDecimal then { s with frac := s.frac ++ ds } else { s with int := s.int ++ ds }
    with hasDigits := s.hasDigits || !ds.isEmpty }

theorem SFin.step_digit (s : SFin) {c : Nat} (h : isDigit c = true) : s.step c = some (s.pushDigits [c - 48]) := by
  obtain ⟨neg, int, frac, exp, sign, dot, digs⟩ := s
  rcases exp with _ | ⟨en, ed⟩ <;> cases dot <;> simp [SFin.step, SFin.pushDigits, h]

theorem SFin.pushDigits_cons (s : SFin) (d : Nat) (ds : List Nat) : (s.pushDigits [d]).pushDigits ds = s.pushDigits (d :: ds) := by
  obtain ⟨neg, int, frac, exp, sign, dot, digs⟩ := s
  rcases exp with _ | ⟨en, ed⟩ <;> cases dot <;> simp [SFin.pushDigits]

theorem SFin.pushDigits_nil (s : SFin) : s.pushDigits [] = s := by
  obtain ⟨neg, int, frac, exp, sign, dot, digs⟩ := s
  rcases exp with _ | ⟨en, ed⟩ <;> cases dot <;> simp [SFin.pushDigits]

theorem run_digits (s : SFin) (cs : List Nat) :
    s.run cs = (s.pushDigits (takeDigits cs).1).run (takeDigits cs).2 := by
  induction cs generalizing s with
  | nil => rw [show takeDigits [] = ([], []) from rfl, SFin.pushDigits_nil]
  | cons c cs ih =>
    cases h : isDigit c
    · rw [takeDigits_cons_nondigit _ h, SFin.pushDigits_nil]
    · rw [takeDigits_cons_digit _ h, SFin.run, SFin.step_digit s h, Option.bind_some, ih, SFin.pushDigits_cons]

theorem run_int (s : SFin) (cs : List Nat) (he : s.exp = none) (hd : s.hasDecimal = false) :
    s.run cs = ({ s with int := s.int ++ (takeDigits cs).1,
                         hasDigits := s.hasDigits || !(takeDigits cs).1.isEmpty } : SFin).run (takeDigits cs).2 := by
  rw [run_digits, SFin.pushDigits, he, hd]; rfl

theorem run_frac (s : SFin) (cs : List Nat) (he : s.exp = none) (hd : s.hasDecimal = true) :
    s.run cs = ({ s with frac := s.frac ++ (takeDigits cs).1,
                         hasDigits := s.hasDigits || !(takeDigits cs).1.isEmpty } : SFin).run (takeDigits cs).2 := by
  rw [run_digits, SFin.pushDigits, he, hd]; rfl

theorem run_exp (s : SFin) (en : Bool) (ed : List Nat) (cs : List Nat) (he : s.exp = some (en, ed)) :
    s.run cs = ({ s with exp := some (en, ed ++ (takeDigits cs).1),
                         hasDigits := s.hasDigits || !(takeDigits cs).1.isEmpty } : SFin).run (takeDigits cs).2 := by
  rw [run_digits, SFin.pushDigits, he]

/-! `SFin.step` on a state of which only the phase is known -/

theorem SFin.step_point {s : SFin} (he : s.exp = none) (hd : s.hasDecimal = false) :
    s.step 46 = some { s with hasDecimal := true, hasDigits := false } := by
  simp [SFin.step, he, hd, isDigit]

theorem SFin.step_e {s : SFin} {c : Nat} (he : s.exp = none) (hg : s.hasDigits = true) (hc : lower c = 101) :
    s.step c = some { s with exp := some (false, []), hasSign := false, hasDigits := false } := by
  rcases Grammar.lower_eq_101.1 hc with rfl | rfl <;> simp [SFin.step, he, hg, isDigit]

theorem SFin.step_mant_reject {s : SFin} {c : Nat} (he : s.exp = none) (hnd : isDigit c = false)
    (hdot : s.hasDecimal = true ∨ c ≠ 46) (hne : lower c ≠ 101 ∨ s.hasDigits = false) : s.step c = none := by
  have : ¬ (c = 101 ∨ c = 69) ∨ s.hasDigits = false := hne.imp_left fun h h' => h (Grammar.lower_eq_101.2 h')
  have h1 : (decide (c = 46) && !s.hasDecimal) = false := by rcases hdot with h | h <;> simp [h]
  have h2 : ((decide (c = 101) || decide (c = 69)) && s.hasDigits) = false := by
    rcases this with h | h
    · simp [not_or.1 h]
    · simp [h]
  simp [SFin.step, he, hnd, h1, h2]

/-- `n` is the sign read, `hc` says `c` is its byte: `rw` does not see `43` in `if false …`, so the byte is a variable -/
theorem SFin.step_expSign {s : SFin} {en : Bool} {ed : List Nat} (n : Bool) {c : Nat} (he : s.exp = some (en, ed))
    (hs : s.hasSign = false) (hg : s.hasDigits = false) (hc : c = if n then 45 else 43) :
    s.step c = some { s with exp := some (n, ed), hasSign := true } := by
  cases n <;> subst hc <;> simp [SFin.step, he, hs, hg, isDigit]

/-- stated on a literal state so that `rw` can instantiate it from the goal -/
theorem SFin.step_exp_reject {neg : Bool} {int frac : List Nat} {en : Bool} {eds : List Nat} {sg dot dg : Bool} {c : Nat}
    (hnd : isDigit c = false) (h : dg = true ∨ sg = true ∨ (c ≠ 43 ∧ c ≠ 45)) :
    ({ neg := neg, int := int, frac := frac, exp := some (en, eds), hasSign := sg, hasDecimal := dot, hasDigits := dg } : SFin).step c = none := by
  rcases h with rfl | rfl | ⟨h1, h2⟩
  · simp [SFin.step, hnd]
  · simp [SFin.step, hnd]
  · simp [SFin.step, hnd, h1, h2]

theorem digits_then_end (s : SFin) (en : Bool) (r4 : List Nat) (he : s.exp = some (en, [])) (hg : s.hasDigits = false)
    (h : s.hasSign = true ∨ Grammar.NoSgn r4) :
    (s.run r4).bind SFin.finish =
      if (takeDigits r4).1.isEmpty || !(takeDigits r4).2.isEmpty then none
      else some (.finite s.neg s.int s.frac (some (en, (takeDigits r4).1))) := by
  rw [run_exp _ en [] r4 he]
  have hrest := Grammar.takeDigits_rest r4
  -- taken before the halves of the split become variables: without a digit the rest is `r4` itself (for `NoSgn r4`)
  have hnil := Grammar.takeDigits_fst_nil r4
  generalize (takeDigits r4).1 = ds at *
  generalize (takeDigits r4).2 = rr at *
  rcases rr with _ | ⟨c, r⟩
  · cases ds <;> simp [SFin.run, SFin.finish, hg]
  · have hnd := hrest c r rfl
    cases ds with
    | nil =>
      rw [SFin.run, SFin.step_exp_reject hnd (Or.inr (h.imp id fun h => h c r (hnil rfl).symm))]
      simp
    | cons d ds =>
      simp only [List.isEmpty_cons, Bool.not_false, Bool.or_true, SFin.run]
      rw [SFin.step_exp_reject hnd (Or.inl rfl)]
      simp

theorem after_e (s : SFin) {c : Nat} (r3 : List Nat) (hc : lower c = 101) (he : s.exp = some (false, []))
    (hs : s.hasSign = false) (hg : s.hasDigits = false) :
    (s.run r3).bind SFin.finish = Grammar.expTail s.neg s.int s.frac (c :: r3) := by
  simp only [Grammar.expTail, hc, if_true]
  fun_cases takeSign r3
  case case1 cs =>
    rw [SFin.run, SFin.step_expSign false (c := 43) he hs hg rfl, Option.bind_some]
    exact digits_then_end _ false cs rfl hg (Or.inl rfl)
  case case2 cs =>
    rw [SFin.run, SFin.step_expSign true (c := 45) he hs hg rfl, Option.bind_some]
    exact digits_then_end _ true cs rfl hg (Or.inl rfl)
  case case3 h43 h45 =>
    exact digits_then_end s false r3 he hg
      (Or.inr fun c r h => ⟨fun e => h43 r (e ▸ h), fun e => h45 r (e ▸ h)⟩)

theorem mant_tail (s : SFin) (r2 : List Nat) (he : s.exp = none) (hg : s.hasDigits = true) (hN : Grammar.NoDig r2)
    (hdot : s.hasDecimal = true ∨ ∀ t, r2 ≠ 46 :: t) :
    (s.run r2).bind SFin.finish = Grammar.expTail s.neg s.int s.frac r2 := by
  rcases r2 with _ | ⟨c, r⟩
  · simp [SFin.run, SFin.finish, Grammar.expTail, hg, he]
  · by_cases hc : lower c = 101
    · rw [SFin.run, SFin.step_e he hg hc, Option.bind_some]
      exact after_e _ r hc rfl rfl rfl
    · rw [SFin.run, SFin.step_mant_reject he (hN c r rfl) (hdot.imp_right fun h e => h r (e ▸ rfl)) (Or.inl hc)]
      simp [Grammar.expTail, hc]

/-- the state is the one `Sem.step` creates at the first digit, the sign stashed before -/
theorem finite_accept_eq {neg hasSign : Bool} {c : Nat} {rest : List Nat} (hc : isDigit c = true) :
    (({ neg := neg, int := [c - 48], hasSign := hasSign, hasDigits := true } : SFin).run rest).bind SFin.finish
      = parseFiniteBody neg (c :: rest) := by
  rw [Grammar.parseFiniteBody_eq, takeDigits_cons_digit _ hc, run_int _ rest rfl rfl]
  have hN := Grammar.takeDigits_rest rest
  generalize (takeDigits rest).1 = ids at *
  generalize (takeDigits rest).2 = r1 at *
  simp only [List.isEmpty_cons, Bool.false_eq_true, if_false]
  by_cases hdot : ∃ r2, r1 = 46 :: r2
  · obtain ⟨r2, rfl⟩ := hdot
    rw [SFin.run, SFin.step_point (by rfl) (by rfl), Option.bind_some, run_frac _ r2 rfl rfl]
    have hN2 := Grammar.takeDigits_rest r2
    simp only [Grammar.fracPart]
    generalize (takeDigits r2).1 = fds at *
    generalize (takeDigits r2).2 = r3 at *
    cases fds with
    | nil =>
      -- no fractional digit: rejected, whatever follows
      rcases r3 with _ | ⟨c3, r4⟩
      · simp [SFin.run, SFin.finish]
      · rw [SFin.run, SFin.step_mant_reject (by rfl) (hN2 c3 r4 rfl) (Or.inl rfl) (Or.inr rfl)]; rfl
    | cons fd fds => exact (mant_tail _ r3 rfl rfl hN2 (Or.inl rfl)).trans rfl
  · have h46 : ∀ t, r1 ≠ 46 :: t := fun t h => hdot ⟨t, h⟩
    rw [show Grammar.fracPart r1 = some ([], r1) from Grammar.fracPart_complete .none hN h46]
    exact mant_tail _ r1 rfl rfl hN (Or.inr h46)


theorem ps_kw_s (cs : List Nat) : kw "s" cs = if (cs.take 1).map lower = [115] then some (cs.drop 1) else none := kw_s cs

/-- `cs` spells all of `w`, or `w` short of a final `inity`: `InfinityParser.finish` is content with `inf` -/
theorem SInf.accept_eq {w : List Nat} {neg : Bool} {cs : List Nat} (hw : ∀ e ∈ w, lower e = e) :
    SInf.accept ⟨w, neg⟩ cs =
      if cs.map lower = w ∨ cs.map lower ++ [105, 110, 105, 116, 121] = w then some (.inf neg) else none := by
  induction cs generalizing w with
  | nil =>
    simp only [SInf.accept, SInf.finish, kwInfinity, List.drop, List.map_nil, List.nil_append, Bool.or_eq_true,
      decide_eq_true_eq]
    simp only [eq_comm]
  | cons c cs ih =>
    rcases w with _ | ⟨e, es⟩
    · simp [SInf.accept, SInf.step]
    · have he : lower e = e := hw e (by simp)
      simp only [SInf.accept, SInf.step, eqIgnoreCase, he]
      by_cases h : e = lower c
      · subst h
        simp only [beq_self_eq_true, if_true, Option.bind_some]
        rw [ih (fun x hx => hw x (by simp [hx]))]
        simp
      · simp [h, Ne.symm h]

theorem special_i_sem {neg : Bool} {c : Nat} {rest : List Nat} (hc : lower c = 105) :
    parseSpecialBody neg (c :: rest) = SInf.accept ⟨kwInfinity.drop 1, neg⟩ rest := by
  -- the automaton one byte earlier, expecting all of `infinity`, reads `c :: rest`
  have step : SInf.accept ⟨kwInfinity.drop 1, neg⟩ rest = SInf.accept ⟨kwInfinity, neg⟩ (c :: rest) := by
    simp [SInf.accept, SInf.step, kwInfinity, eqIgnoreCase, hc, show lower 105 = 105 by decide]
  rw [step, SInf.accept_eq (by decide)]
  apply Option.ext
  intro num
  rw [Grammar.parseSpecialBody_iff, Grammar.isWord_inf, Grammar.isWord_infinity, Option.ite_none_right_eq_some, Option.some.injEq]
  constructor
  · rintro (⟨hw, rfl⟩ | ⟨hw, rfl⟩ | ⟨sn, w, pl, g, p, h, hs, hw, -, -⟩)
    · exact ⟨Or.inr (by rw [hw]; rfl), rfl⟩
    · exact ⟨Or.inl hw, rfl⟩
    · exfalso
      obtain ⟨a, t, rfl, ha⟩ := Grammar.isWord_head hw Grammar.word_nan
      cases hs with
      | quiet => cases h; omega
      | signalling l hl =>
        obtain ⟨x, u, rfl, hx⟩ := Grammar.isWord_head hl Grammar.word_s
        cases h; omega
  · rintro ⟨h1 | h1, rfl⟩
    · exact Or.inr (Or.inl ⟨h1, rfl⟩)
    · exact Or.inl ⟨List.append_cancel_right (bs := [105, 110, 105, 116, 121]) h1, rfl⟩
theorem SNan.step_nil (sig neg : Bool) (pl : Option (List Nat)) (c : Nat) : SNan.step ⟨[], sig, neg, pl⟩ c = none := by
  simp [SNan.step, SNan.isExpecting]

theorem SNan.step_close_nondigit {sig neg : Bool} {pl : Option (List Nat)} {c : Nat} (hc : isDigit c = false) :
    SNan.step ⟨[41], sig, neg, pl⟩ c = if c = 41 then some ⟨[], sig, neg, pl⟩ else none := by
  have h1 : lower 41 = 41 := by decide
  have h2 : lower 40 = 40 := by decide
  by_cases h : c = 41
  · subst h; simp [SNan.step, SNan.isExpecting, eqIgnoreCase, hc]
  · have : ¬ 41 = lower c := by have := Grammar.lower_spec c; omega
    simp [SNan.step, SNan.isExpecting, eqIgnoreCase, hc, h, h1, h2, this]

theorem SNan.step_close_digit {sig neg : Bool} {ds : List Nat} {c : Nat} (hc : isDigit c = true) :
    SNan.step ⟨[41], sig, neg, some ds⟩ c = some ⟨[41], sig, neg, some (ds ++ [c - 48])⟩ := by
  simp [SNan.step, SNan.isExpecting, eqIgnoreCase, hc]

theorem SNan.step_open (sig neg : Bool) (c : Nat) :
    SNan.step ⟨[40, 41], sig, neg, none⟩ c = if c = 40 then some ⟨[41], sig, neg, some []⟩ else none := by
  have h2 : lower 40 = 40 := by decide
  by_cases h : c = 40
  · subst h; simp [SNan.step, SNan.isExpecting, eqIgnoreCase]
  · have : ¬ 40 = lower c := by have := Grammar.lower_spec c; omega
    simp [SNan.step, SNan.isExpecting, eqIgnoreCase, h, h2, this]

theorem SNan.step_letter {e : Nat} {es : List Nat} {sig neg : Bool} {c : Nat} (he : lower e = e) (h40 : e ≠ 40) :
    SNan.step ⟨e :: es, sig, neg, none⟩ c = if lower c = e then some ⟨es, sig, neg, none⟩ else none := by
  have h2 : lower 40 = 40 := by decide
  by_cases h : lower c = e
  · have : c ≠ 40 := by rintro rfl; exact h40 (by rw [← h, h2])
    simp [SNan.step, SNan.isExpecting, eqIgnoreCase, he, h, this]
  · have : ¬ e = lower c := fun h' => h h'.symm
    simp [SNan.step, SNan.isExpecting, eqIgnoreCase, he, h, h2, h40, this]

theorem nan_digits (neg sig : Bool) (ds r2 : List Nat) :
    SNan.accept ⟨[41], sig, neg, some ds⟩ r2 =
      if (takeDigits r2).2 = [41] then some (.nan neg sig (some (ds ++ (takeDigits r2).1))) else none := by
  induction r2 generalizing ds with
  | nil => simp [SNan.accept, SNan.finish, takeDigits_nil]
  | cons c cs ih =>
    cases hc : isDigit c
    · rw [takeDigits_cons_nondigit _ hc, SNan.accept, SNan.step_close_nondigit hc]
      by_cases h41 : c = 41
      · subst h41
        rcases cs with _ | ⟨c', cs'⟩
        · rw [if_pos rfl, if_pos rfl, List.append_nil]; rfl
        · simp [SNan.accept, SNan.step_nil]
      · simp [h41]
    · rw [takeDigits_cons_digit _ hc, SNan.accept, SNan.step_close_digit hc, Option.bind_some, ih]
      simp [List.append_assoc]

theorem SNan.accept_word {w rest : List Nat} {sig neg : Bool} {cs : List Nat} (hw : ∀ e ∈ w, lower e = e ∧ e ≠ 40) :
    SNan.accept ⟨w ++ rest, sig, neg, none⟩ cs =
      if (cs.take w.length).map lower = w then SNan.accept ⟨rest, sig, neg, none⟩ (cs.drop w.length) else none := by
  induction w generalizing cs with
  | nil => simp
  | cons e w ih =>
    obtain ⟨he, h40⟩ := hw e (by simp)
    cases cs with
    | nil =>
      have : SNan.finish ⟨e :: (w ++ rest), sig, neg, none⟩ = none := by
        unfold SNan.finish
        split
        next h _ => cases h
        next h _ => exact absurd (List.cons.inj h).1 h40
        next => rfl
      simpa [SNan.accept] using this
    | cons c cs =>
      rw [List.cons_append, SNan.accept, SNan.step_letter he h40, List.length_cons]
      simp only [List.take_succ_cons, List.map_cons, List.cons.injEq]
      by_cases h : lower c = e
      · simp [h, ih fun x hx => hw x (by simp [hx])]
      · simp [h]

theorem nan_sem (neg sig : Bool) (r : List Nat) :
    SNan.accept ⟨kwSnan.drop 1, sig, neg, none⟩ r = Grammar.nanTail neg sig r := by
  rw [show kwSnan.drop 1 = [110, 97, 110] ++ [40, 41] from rfl, SNan.accept_word (by decide), Grammar.nanTail,
    kw_nan]
  by_cases h : (r.take 3).map lower = [110, 97, 110]
  · simp only [List.length_cons, List.length_nil, h, if_true]
    -- after the keyword: end of input, or `(`, digits, `)`
    generalize List.drop 3 r = r'
    rcases r' with _ | ⟨c, r2⟩
    · rfl
    · rw [SNan.accept, SNan.step_open]
      by_cases h : c = 40
      · subst h; simp [nan_digits]
      · simp [h]
  · simp only [List.length_cons, List.length_nil, h, if_false]


/-- the letter tests of `Sem.step` in the recogniser's terms -/
theorem lower_eq_bool {c n u : Nat} (hn : 97 ≤ n ∧ n ≤ 122) (hu : u + 32 = n) : (c = n || c = u) = true ↔ lower c = n := by
  rw [Grammar.lower_eq_iff hn hu, Bool.or_eq_true, decide_eq_true_eq, decide_eq_true_eq]

theorem lower_eq_i (c : Nat) : (c = 105 || c = 73) = true ↔ lower c = 105 := lower_eq_bool (by omega) rfl
theorem lower_eq_s (c : Nat) : (c = 115 || c = 83) = true ↔ lower c = 115 := lower_eq_bool (by omega) rfl
theorem lower_eq_n (c : Nat) : (c = 110 || c = 78) = true ↔ lower c = 110 := lower_eq_bool (by omega) rfl

theorem start_accept (neg : Option Bool) (c : Nat) (rest : List Nat)
    (hs : neg.isSome = true ∨ (c ≠ 43 ∧ c ≠ 45)) :
    (Sem.start neg).accept (c :: rest) =
      if isDigit c then parseFiniteBody (neg.getD false) (c :: rest) else parseSpecialBody (neg.getD false) (c :: rest) := by
  cases hd : isDigit c
  · have h45 : (c = 45 && neg.isNone) = false := by
      rcases hs with h | h
      · obtain ⟨b, rfl⟩ := Option.isSome_iff_exists.1 h; simp
      · simp [h.2]
    have h43 : (c = 43 && neg.isNone) = false := by
      rcases hs with h | h
      · obtain ⟨b, rfl⟩ := Option.isSome_iff_exists.1 h; simp
      · simp [h.1]
    simp only [Sem.accept, Sem.step, hd, h45, h43, Bool.false_eq_true, if_false]
    by_cases hS : (c = 115 || c = 83) = true
    · rw [if_pos hS, Option.bind_some, Sem.accept_nan, nan_sem, Grammar.parseSpecialBody_s ((lower_eq_s c).1 hS)]
    rw [if_neg hS]
    by_cases hN : (c = 110 || c = 78) = true
    · have hl := (lower_eq_n c).1 hN
      rw [if_pos hN, Option.bind_some, Sem.accept_nan, Grammar.parseSpecialBody_n hl, ← nan_sem,
        show kwSnan.drop 1 = [110, 97, 110, 40, 41] from rfl, SNan.accept,
        SNan.step_letter (by decide) (by decide), if_pos hl]
      rfl
    rw [if_neg hN]
    by_cases hI : (c = 105 || c = 73) = true
    · rw [if_pos hI, Option.bind_some, Sem.accept_inf, special_i_sem ((lower_eq_i c).1 hI)]
    rw [if_neg hI, Grammar.parseSpecialBody_other (mt (lower_eq_i c).2 hI) (mt (lower_eq_s c).2 hS) (mt (lower_eq_n c).2 hN)]
    rfl
  · simp only [Sem.accept, Sem.step, hd, if_true, Option.bind_some]
    rw [Sem.accept_fin, finite_accept_eq hd]

theorem semParse_eq_parse (txt : List Nat) : semParse txt = Spec.parse txt := by
  -- a sign byte is stashed in the start state; what follows selects the sub-parser
  have sign : ∀ (b : Bool) (c : Nat) (r : List Nat), c = (if b then 45 else 43) →
      (Sem.start none).accept (c :: r) = match r with
        | c2 :: _ => if isDigit c2 then parseFiniteBody b r else parseSpecialBody b r
        | [] => none := by
    intro b c r hc
    have hs : (Sem.start none).step c = some (Sem.start (some b)) := by cases b <;> subst hc <;> rfl
    rw [Sem.accept, hs, Option.bind_some]
    cases r with
    | nil => rfl
    | cons c2 r2 => exact start_accept _ _ _ (Or.inl rfl)
  unfold semParse Spec.parse
  fun_cases takeSign txt
  case case1 r => exact sign false 43 r rfl
  case case2 r => exact sign true 45 r rfl
  case case3 h43 h45 =>
    cases txt with
    | nil => rfl
    | cons c r => exact start_accept _ _ _ (Or.inr ⟨fun e => h43 r (e ▸ rfl), fun e => h45 r (e ▸ rfl)⟩)

end Decstr.Proofs

#print axioms Decstr.Proofs.semParse_eq_parse
