import Decstr.Proofs.ParserMain
/-!
# Proofs.ParserFiniteStr — `parseFiniteStr` (the entry used for itoa / ryu text) agrees with `parseStr`
on every text that starts with an optional sign and a digit.  (The two parsers are in fact in the very same
`FiniteParser` state after that first digit, so the results are equal, not just equal as numerals.)
-/
namespace Decstr.Proofs
open Decstr.Model Decstr.Spec

/-- The shape of the texts `parseFiniteStr` is called on: itoa writes digits or `-` and digits, and the float
    formatter's contract promises the same.  The oracle's test `Spec.startsDigitOrMinusDigit` is the same function. -/
def startsWithDigitOrMinusDigit : List Nat → Bool
  | c :: rest => isDigit c || (c == 45 && (match rest with | d :: _ => isDigit d | [] => false))
  | [] => false

theorem startsWithDigitOrMinusDigit_eq : startsWithDigitOrMinusDigit = Spec.startsDigitOrMinusDigit := by
  funext txt
  cases txt <;> rfl

/-- the sign is held back by `AtStart` and replayed into the `FiniteParser` at the first digit (`startStep_digit`),
    which from then on only forwards -/
theorem parseFiniteStr_eq_parseStr_sign {sg : List Nat} {so : Option Bool} (hs : IsSign sg so) (d : Nat)
    (rest : List Nat) (hd : isDigit d = true) :
    parseFiniteStr (sg ++ d :: rest) = parseStr (sg ++ d :: rest) := by
  unfold parseFiniteStr parseStr
  generalize hb : TextBuf.new .str (sg ++ d :: rest) = b
  have hk : b.kind = .str := by rw [← hb]; rfl
  have key : (DecimalParser.atStart b none).parseAscii (sg ++ d :: rest) =
      ((FiniteParser.begin b).steps (sg ++ d :: rest)).map .finite := by
    -- after the sign (if any) `AtStart` holds `so`
    have hsg : (DecimalParser.atStart b none).parseAscii (sg ++ d :: rest) =
        (DecimalParser.atStart b so).parseAscii (d :: rest) ∧ sg = signByte so := by
      cases hs with
      | none => exact ⟨rfl, rfl⟩
      | plus => exact ⟨by rw [List.singleton_append, parseAscii_atStart]; rfl, rfl⟩
      | minus => exact ⟨by rw [List.singleton_append, parseAscii_atStart]; rfl, rfl⟩
    rw [hsg.1, hsg.2, parseAscii_atStart, startStep_digit b so d hd,
      show signByte so ++ d :: rest = (signByte so ++ [d]) ++ rest by simp,
      FiniteParser.steps_append _ (signByte so ++ [d]) rest]
    cases hf : (FiniteParser.begin b).steps (signByte so ++ [d]) with
    | error e => rfl
    | ok f =>
      have hkf := (finite_steps_grow hf).1.trans hk
      exact (parseAscii_roomy (.finite f) rest rfl fun _ hc => nomatch hkf.symm.trans hc).trans (stepsD_finite f rest)
  rw [DecimalParser.begin, key, FiniteParser.parseAscii, remaining_str (FiniteParser.begin b).buf hk]
  cases (FiniteParser.begin b).steps (sg ++ d :: rest) <;> rfl

theorem parseFiniteStr_eq_parseStr (txt : List Nat) (h : startsWithDigitOrMinusDigit txt = true) :
    parseFiniteStr txt = parseStr txt := by
  rcases txt with _ | ⟨c, rest⟩
  · cases h
  · simp only [startsWithDigitOrMinusDigit, Bool.or_eq_true, Bool.and_eq_true, beq_iff_eq] at h
    rcases h with hd | ⟨rfl, h2⟩
    · exact parseFiniteStr_eq_parseStr_sign .none c rest hd
    · rcases rest with _ | ⟨d, rest⟩
      · cases h2
      · exact parseFiniteStr_eq_parseStr_sign .minus d rest h2

theorem parseFiniteStr_eq (txt : List Nat) (h : startsWithDigitOrMinusDigit txt = true) :
    (parseFiniteStr txt).map numeralOf = (parseStr txt).map numeralOf := by
  rw [parseFiniteStr_eq_parseStr txt h]

example : startsWithDigitOrMinusDigit [45, 49, 50, 101, 51] = true := by decide
example : parseFiniteStr [45, 49, 50, 101, 51] = parseStr [45, 49, 50, 101, 51] := parseFiniteStr_eq_parseStr _ (by decide)

end Decstr.Proofs

#print axioms Decstr.Proofs.parseFiniteStr_eq_parseStr
#print axioms Decstr.Proofs.parseFiniteStr_eq
