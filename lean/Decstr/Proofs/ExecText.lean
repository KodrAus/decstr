import Decstr.Model.ExecText
import Decstr.Proofs.ExecBasic
import Decstr.Proofs.Stream
/-!
# Proofs.ExecText — the checked text buffers and parsers never reach a panic site and compute what the pure parsers
compute: an array buffer is only written below its capacity (the per-fragment capacity test; the unchecked bytes of
`DecimalParser::parse_ascii` need a capacity of at least 2), the `debug_assert_eq!`s of the string buffer hold because the
buffer is positioned exactly at the byte being parsed, the `expecting` slices are taken of non-empty remainders.
-/
namespace Decstr.Proofs.Exec
open Decstr.Model Decstr.Model.Exec

theorem guardPut_then {α : Type} {site : String} {b : TextBuf} {x : α} (h : Fits b 1) :
    (do guardPut site b; (.ok x : Chk α)) = .ok x := by
  unfold guardPut
  cases hk : b.kind with
  | array cap => dsimp only; rw [req_pos (Nat.lt_of_succ_le (h cap hk)), bind_ok]
  | str => rfl
  | vec => rfl

theorem dbgStr_ok {c : Bool} {site : String} {b : TextBuf} {x : Nat} {rest : List Nat} (hT : Tracks txt b (x :: rest)) :
    dbgStr c site b x = .ok () := by
  unfold dbgStr
  cases hk : b.kind with
  | array cap => rfl
  | vec => rfl
  | str =>
    obtain ⟨h0, pre, h1, h2⟩ := hT hk
    dsimp only
    cases c with
    | false => rfl
    | true =>
      simp only [if_true]
      rw [req_pos (by rw [h0, h1, h2]; simp), bind_ok, req_pos (by rw [h0, h1, h2]; simp)]

theorem remainingC_eq {c : Bool} {b : TextBuf} (h : Fits b 0) : remainingC c b = .ok b.remaining := by
  unfold remainingC TextBuf.remaining
  cases hk : b.kind with
  | array cap =>
    dsimp only
    rw [subUsize_ok (Nat.le_of_add_right_le (h cap hk)), bind_ok]
  | str => rfl
  | vec => rfl

theorem advanceSignificandC_eq {b : TextBuf} {x : Nat} (h : Fits b 1) :
    advanceSignificandC b x = .ok (b.advanceSignificand x) :=
  guardPut_then h

theorem pushSignificandDigitC_eq {c : Bool} {b : TextBuf} {s : PSignificand} {d : Nat} {rest : List Nat}
    (hT : Tracks txt b (d :: rest)) (h : Fits b 1) : pushSignificandDigitC c b s d = .ok (b.pushSignificandDigit s d) :=
  bind_eq_of_ok (dbgStr_ok hT) (guardPut_then h)

theorem pushDecimalPointC_eq {c : Bool} {b : TextBuf} {s : PSignificand} {rest : List Nat}
    (hT : Tracks txt b (46 :: rest)) (h : Fits b 1) : pushDecimalPointC c b s = .ok (b.pushDecimalPoint s) :=
  bind_eq_of_ok (dbgStr_ok hT) (guardPut_then h)

theorem significandNegativeC_eq {b : TextBuf} {s : PSignificand} (h : Fits b 1) :
    significandNegativeC b s = .ok (b.significandNegative s) :=
  guardPut_then h

theorem beginExponentC_eq {b : TextBuf} (h : Fits b 1) : beginExponentC b = .ok b.beginExponent :=
  guardPut_then h

theorem pushExponentDigitC_eq {b : TextBuf} {e : PExponent} {d : Nat} (h : Fits b 1) :
    pushExponentDigitC b e d = .ok (b.pushExponentDigit e d) :=
  guardPut_then h

theorem exponentNegativeC_eq {b : TextBuf} {e : PExponent} (h : Fits b 1) :
    exponentNegativeC b e = .ok (b.exponentNegative e) :=
  guardPut_then h

theorem finite_pushSignificandDigitC_eq {c : Bool} {p : FiniteParser} {d : Nat} {rest : List Nat}
    (hT : Tracks txt p.buf (d :: rest)) (h : Fits p.buf 1) :
    FiniteParserC.pushSignificandDigit c p d = .ok (p.pushSignificandDigit d) := by
  unfold FiniteParserC.pushSignificandDigit; rw [pushSignificandDigitC_eq hT h, bind_ok]

theorem finite_significandNegativeC_eq {p : FiniteParser} (h : Fits p.buf 1) :
    FiniteParserC.significandNegative p = .ok p.significandNegative := by
  unfold FiniteParserC.significandNegative; rw [significandNegativeC_eq h, bind_ok]

theorem finite_pushDecimalPointC_eq {c : Bool} {p : FiniteParser} {rest : List Nat}
    (hT : Tracks txt p.buf (46 :: rest)) (h : Fits p.buf 1) : FiniteParserC.pushDecimalPoint c p = .ok p.pushDecimalPoint := by
  unfold FiniteParserC.pushDecimalPoint; rw [pushDecimalPointC_eq hT h, bind_ok]

theorem finite_beginExponentC_eq {p : FiniteParser} (h : Fits p.buf 1) :
    FiniteParserC.beginExponent p = .ok p.beginExponent := by
  unfold FiniteParserC.beginExponent; rw [beginExponentC_eq h, bind_ok]

theorem nanPositiveC_eq {p : NanParser} {x : Nat} (h : Fits p.buf 1) : NanParserC.nanPositive p x = .ok (p.nanPositive x) := by
  unfold NanParserC.nanPositive; rw [advanceSignificandC_eq h, bind_ok]
theorem nanNegativeC_eq {p : NanParser} {x : Nat} (h : Fits p.buf 1) : NanParserC.nanNegative p x = .ok (p.nanNegative x) := by
  unfold NanParserC.nanNegative; rw [advanceSignificandC_eq h, bind_ok]
theorem nanQuietC_eq {p : NanParser} {x : Nat} (h : Fits p.buf 1) (he : 2 ≤ p.expecting.length) :
    NanParserC.nanQuiet p x = .ok (p.nanQuiet x) := by
  unfold NanParserC.nanQuiet; rw [req_pos he, bind_ok, advanceSignificandC_eq h, bind_ok]
theorem nanSignalingC_eq {p : NanParser} {x : Nat} (h : Fits p.buf 1) (he : 1 ≤ p.expecting.length) :
    NanParserC.nanSignaling p x = .ok (p.nanSignaling x) := by
  unfold NanParserC.nanSignaling; rw [req_pos he, bind_ok, advanceSignificandC_eq h, bind_ok]
theorem infinity_advanceC_eq {p : InfinityParser} {x : Nat} (h : Fits p.buf 1) (he : 1 ≤ p.expecting.length) :
    InfinityParserC.advance p x = .ok (p.advance x) := by
  unfold InfinityParserC.advance; rw [req_pos he, bind_ok, advanceSignificandC_eq h, bind_ok]

/-- the per-fragment capacity test of the three `parse_ascii` (`xC` / `x`: the checked and the pure byte loop): the bytes
    are only looked at when the whole fragment fits, which is the room the loop needs.  Both sides are what the two
    `parseAscii` unfold to, so the uses below are `exact`; the `capOk` form of the pure side is `Stream.capTest_eq`. -/
theorem capacityTestC_eq {σ : Type} {c : Bool} {b : TextBuf} {n : Nat} {xC : Chk (Except ParseErr σ)}
    {x : Except ParseErr σ} (h0 : Fits b 0) (hx : Fits b n → xC = .ok x) :
    (do let r ← remainingC c b
        match r with
        | some r => if r < n then .ok (.error .bufferTooSmall) else xC
        | none => xC : Chk (Except ParseErr σ)) =
      .ok (match b.remaining with
        | some r => if r < n then .error .bufferTooSmall else x
        | none => x) := by
  rw [remainingC_eq h0, bind_ok]
  cases hr : b.remaining with
  | none => exact hx fun cap hc => by simp [TextBuf.remaining, hc] at hr
  | some r =>
    refine ok_ite (fun _ => rfl) fun hlt => hx fun cap hc => ?_
    have := h0 cap hc
    simp only [TextBuf.remaining, hc, Option.some.injEq] at hr
    omega

/-! ## FiniteParser

The checked step has the `if` chain of the pure step, so the two are compared arm by arm. -/

theorem finite_stepC_eq {c : Bool} {p : FiniteParser} {ch : Nat} {rest : List Nat}
    (hT : Tracks txt p.buf (ch :: rest)) (hroom : Fits p.buf 1) :
    FiniteParserC.step c p ch = .ok (p.step ch) := by
  unfold FiniteParserC.step
  cases he : p.exp with
  | none =>
    unfold FiniteParser.step
    rw [he]
    refine ok_ite (fun _ => ?_) fun _ => ok_ite (fun _ => ?_) fun _ => ok_ite (fun h46 => ?_) fun _ =>
      ok_ite (fun _ => ?_) fun _ => ok_ite (fun _ => rfl) fun _ => rfl
    -- the arms that store a byte, in order: digit, `-`, `.`, `e`/`E`
    · rw [finite_pushSignificandDigitC_eq hT hroom, except_map_ok]
    · rw [finite_significandNegativeC_eq hroom, except_map_ok]
    · have e46 : ch = 46 := of_decide_eq_true (Bool.and_eq_true_iff.1 h46).1
      rw [finite_pushDecimalPointC_eq (e46 ▸ hT) hroom, except_map_ok]
    · rw [finite_beginExponentC_eq hroom, except_map_ok]
  | some e =>
    refine ite_eq_of (fun _ => ?_) fun _ => ite_eq_of (fun _ => ?_) fun _ => rfl
    · rw [pushExponentDigitC_eq hroom, bind_ok]
    · rw [exponentNegativeC_eq hroom, bind_ok]

theorem finite_stepsC_eq {c : Bool} {p : FiniteParser} {cs rest : List Nat} (hI : InvF p)
    (hT : Tracks txt p.buf (cs ++ rest)) (hroom : Fits p.buf cs.length) :
    FiniteParserC.steps c p cs = .ok (p.steps cs) := by
  induction cs generalizing p with
  | nil => rfl
  | cons ch cs ih =>
    unfold FiniteParserC.steps FiniteParser.steps
    rw [finite_stepC_eq hT (hroom.mono (by simp))]
    cases hs : p.step ch with
    | error e => rfl
    | ok p' =>
      dsimp only
      obtain ⟨hI', hT'⟩ := (finite_step_view p ch (cs ++ rest) hI hT).2 p' hs
      exact ih hI' hT' (hroom.grow (finite_step_grow p p' ch hs))

theorem finite_parseAsciiC_eq {c : Bool} {p : FiniteParser} {frag rest : List Nat} (hI : InvF p)
    (hT : Tracks txt p.buf (frag ++ rest)) (hroom : Fits p.buf 0) :
    FiniteParserC.parseAscii c p frag = .ok (p.parseAscii frag) :=
  capacityTestC_eq hroom (finite_stepsC_eq hI hT)

theorem infinity_stepC_eq {p : InfinityParser} {ch : Nat} (hroom : Fits p.buf 1) :
    InfinityParserC.step p ch = .ok (p.step ch) := by
  have hadv : (do let _ ← advanceSignificandC p.buf ch; (.ok (p.step ch) : Chk _)) = .ok (p.step ch) := by
    rw [advanceSignificandC_eq hroom, bind_ok]
  unfold InfinityParserC.step
  refine ite_eq_of (fun _ => hadv) fun _ => ite_eq_of (fun _ => hadv) fun _ => ?_
  cases hex : p.expecting with
  | nil => rfl
  | cons e es =>
    refine ite_eq_of (fun _ => ?_) fun _ => rfl
    rw [req_pos (by simp), bind_ok, hadv]

theorem infinity_stepsC_eq {p : InfinityParser} {cs : List Nat} (hroom : Fits p.buf cs.length) :
    InfinityParserC.steps p cs = .ok (p.steps cs) := by
  induction cs generalizing p with
  | nil => rfl
  | cons ch cs ih =>
    unfold InfinityParserC.steps InfinityParser.steps
    rw [infinity_stepC_eq (hroom.mono (by simp))]
    cases hs : p.step ch with
    | error e => rfl
    | ok p' =>
      dsimp only
      exact ih (hroom.grow (infinity_step_grow p p' ch hs))

theorem infinity_parseAsciiC_eq {c : Bool} {p : InfinityParser} {frag : List Nat} (hroom : Fits p.buf 0) :
    InfinityParserC.parseAscii c p frag = .ok (p.parseAscii frag) :=
  capacityTestC_eq hroom infinity_stepsC_eq

theorem isExpecting_pos {p : NanParser} {x : Nat} (h : p.isExpecting x = true) : 1 ≤ p.expecting.length := by
  unfold NanParser.isExpecting at h
  cases hex : p.expecting with
  | nil => rw [hex] at h; cases h
  | cons e es => simp

theorem nan_stepC_eq {c : Bool} {p : NanParser} {ch : Nat} {rest : List Nat}
    (hT : Tracks txt p.buf (ch :: rest)) (hroom : Fits p.buf 1) :
    NanParserC.step c p ch = .ok (p.step ch) := by
  -- at the start the whole keyword is still expected
  have hAt : ∀ {g : Bool}, (g && p.atStart) = true → 2 ≤ p.expecting.length := fun h => by
    rw [eq_of_beq (Bool.and_eq_true_iff.1 h).2]; decide
  -- the arms that drop one expected byte
  have hadv : ∀ site x, p.isExpecting x = true →
      (do req site (1 ≤ p.expecting.length); let _ ← advanceSignificandC p.buf ch; (.ok (p.step ch) : Chk _))
        = .ok (p.step ch) := by
    intro site x hx
    rw [req_pos (isExpecting_pos hx), bind_ok, advanceSignificandC_eq hroom, bind_ok]
  unfold NanParserC.step
  refine ite_eq_of (fun h1 => ?_) fun h1 => ite_eq_of (fun h2 => ?_) fun h2 => ite_eq_of (fun h3 => ?_) fun h3 =>
    ite_eq_of (fun h4 => ?_) fun h4 => ite_eq_of (fun h5 => ?_) fun h5 => ite_eq_of (fun h6 => ?_) fun _ =>
    ite_eq_of (fun h7 => ?_) fun _ => ite_eq_of (fun h8 => hadv _ ch h8) fun _ => rfl
  -- in order: payload digit, `-`, `+`, `n`/`N`, `s`/`S`, `(`, `)`
  · cases hp : p.payload with
    | none => simp [hp] at h1
    | some s => dsimp only; rw [pushSignificandDigitC_eq hT hroom, bind_ok]
  · rw [nanNegativeC_eq hroom, except_map_ok, NanParser.step, if_neg h1, if_pos h2]
  · rw [nanPositiveC_eq hroom, except_map_ok, NanParser.step, if_neg h1, if_neg h2, if_pos h3]
  · rw [nanQuietC_eq hroom (hAt h4), except_map_ok, NanParser.step, if_neg h1, if_neg h2, if_neg h3, if_pos h4]
  · rw [nanSignalingC_eq hroom (Nat.le_of_succ_le (hAt h5)), except_map_ok, NanParser.step, if_neg h1, if_neg h2,
      if_neg h3, if_neg h4, if_pos h5]
  · exact hadv _ 40 (Bool.and_eq_true_iff.1 h6).2
  · exact hadv _ 41 (Bool.and_eq_true_iff.1 h7).2

theorem nan_stepsC_eq {c : Bool} {p : NanParser} {cs rest : List Nat} (hI : InvN p)
    (hT : Tracks txt p.buf (cs ++ rest)) (hroom : Fits p.buf cs.length) :
    NanParserC.steps c p cs = .ok (p.steps cs) := by
  induction cs generalizing p with
  | nil => rfl
  | cons ch cs ih =>
    unfold NanParserC.steps NanParser.steps
    rw [nan_stepC_eq hT (hroom.mono (by simp))]
    cases hs : p.step ch with
    | error e => rfl
    | ok p' =>
      dsimp only
      obtain ⟨hI', hT'⟩ := (nan_step_view p ch (cs ++ rest) hI hT).2 p' hs
      exact ih hI' hT' (hroom.grow (nan_step_grow p p' ch hs))

theorem nan_parseAsciiC_eq {c : Bool} {p : NanParser} {frag rest : List Nat} (hI : InvN p)
    (hT : Tracks txt p.buf (frag ++ rest)) (hroom : Fits p.buf 0) :
    NanParserC.parseAscii c p frag = .ok (p.parseAscii frag) :=
  capacityTestC_eq hroom (nan_stepsC_eq hI hT)

/-- a `NanParser` given the sign that `AtStart` held back (`DecimalParser::parse_ascii`, the `n`/`s` arms) -/
def nanWithSign (n : NanParser) : Option Bool → NanParser
  | some false => n.nanPositive 43
  | some true => n.nanNegative 45
  | none => n

/-- the sign is stored first, leaving room for the keyword's first letter -/
theorem nan_signC_eq (neg : Option Bool) (n : NanParser) (h : Fits n.buf 2) :
    (match neg with
      | some false => NanParserC.nanPositive n 43
      | some true => NanParserC.nanNegative n 45
      | none => .ok n) = .ok (nanWithSign n neg) ∧ Fits (nanWithSign n neg).buf 1 := by
  have h1 : Fits n.buf 1 := h.mono (Nat.le_succ 1)
  rcases neg with _ | _ | _
  · exact ⟨rfl, h1⟩
  · exact ⟨nanPositiveC_eq h1, h.grow (j := 1) (grow_put n.buf 43)⟩
  · exact ⟨nanNegativeC_eq h1, h.grow (j := 1) (grow_put n.buf 45)⟩

/-- the `AtStart` arm: the bytes stored before a sub-parser exists need room for two -/
theorem startStepC_eq {c : Bool} {b : TextBuf} {neg : Option Bool} {ch : Nat} {rest : List Nat}
    (hT : Tracks txt b (signByte neg ++ ch :: rest)) (hroom : Fits b 2) :
    DecimalParserC.startStep c b neg ch = .ok (DecimalParser.startStep b neg ch) := by
  have h1 : Fits b 1 := hroom.mono (Nat.le_succ 1)
  unfold DecimalParserC.startStep DecimalParser.startStep
  refine ok_ite (fun _ => ?_) fun _ => ok_ite (fun _ => rfl) fun _ => ok_ite (fun _ => rfl) fun _ =>
    ok_ite (fun _ => ?_) fun _ => ok_ite (fun _ => ?_) fun _ => ok_ite (fun _ => ?_) fun _ => rfl
  -- in order: digit, `s`/`S`, `n`/`N`, `i`/`I` (a sign only changes the state)
  · rcases neg with _ | _ | _
    · exact bind_eq_of_ok rfl (bind_eq_of_ok (finite_pushSignificandDigitC_eq (p := .begin b) hT h1) rfl)
    · exact bind_eq_of_ok rfl (bind_eq_of_ok
        (finite_pushSignificandDigitC_eq (tracks_sigPos b _ _ hT) (hroom.grow (j := 1) (grow_sigPos b _))) rfl)
    · exact bind_eq_of_ok (finite_significandNegativeC_eq h1) (bind_eq_of_ok
        (finite_pushSignificandDigitC_eq (tracks_put_any 45 hT) (hroom.grow (j := 1) (grow_put b 45))) rfl)
  · obtain ⟨e1, e2⟩ := nan_signC_eq neg { buf := b } hroom
    exact bind_eq_of_ok e1 (bind_eq_of_ok
      (nanSignalingC_eq e2 (by rcases neg with _ | _ | _ <;> exact Nat.le_of_ble_eq_true rfl)) rfl)
  · obtain ⟨e1, e2⟩ := nan_signC_eq neg { buf := b } hroom
    exact bind_eq_of_ok e1 (bind_eq_of_ok
      (nanQuietC_eq e2 (by rcases neg with _ | _ | _ <;> exact Nat.le_of_ble_eq_true rfl)) rfl)
  · exact bind_eq_of_ok (infinity_advanceC_eq (by rcases neg with _ | _ <;> exact h1)
      (by rcases neg with _ | _ <;> exact Nat.le_of_ble_eq_true rfl)) rfl

/-- room in the buffer of a `DecimalParser` state: two bytes while at the start, the stored text within the array after -/
def RoomD : DecimalParser → Prop
  | .atStart b _ => Fits b 2
  | p => Roomy p 0

/-- what the `AtStart` arm produces has room: the same buffer while only a sign is held back (`startStep_atStart`),
    otherwise a sub-parser that has accounted for one byte more (`stepD_grow`), the held sign included -/
theorem startStep_room {b : TextBuf} {neg : Option Bool} {ch : Nat} {p' : DecimalParser} (hroom : Fits b 2)
    (h : DecimalParser.startStep b neg ch = .ok p') : RoomD p' := by
  have hfit : Roomy p' 0 := Room.grow (j := 1) (fun cap hc => by
    have := hroom cap hc
    have := signByte_length_le neg
    show b.text.length + (signByte neg).length + (0 + 1) ≤ cap
    omega) (stepD_grow (.atStart b neg) p' ch h).2
  cases p' with
  | atStart b' neg' => rw [startStep_atStart h]; exact hroom
  | _ => exact hfit

/-- a fragment that passes the capacity test and stores no more than its bytes leaves the text within the array
    (`fits_of_capOk`, then `Room.grow`) -/
theorem capTest_room {σ : Type} {b b' : TextBuf} {n : Nat} {x : Except ParseErr σ} {q : σ} (h0 : Fits b 0)
    (h : (if capOk b n = true then x else .error .bufferTooSmall) = .ok q)
    (g : x = .ok q → b'.kind = b.kind ∧ b'.text.length ≤ b.text.length + n) : Fits b' 0 := by
  by_cases hcap : capOk b n = true
  · rw [if_pos hcap] at h
    exact Room.grow ((Nat.zero_add n).symm ▸ fits_of_capOk h0 hcap) (g h)
  · rw [if_neg hcap] at h; cases h

/-- the room is kept by an accepted fragment: a sub-parser has tested its capacity, `AtStart` hands over to what
    `startStep_room` describes -/
theorem parseAscii_room {p p' : DecimalParser} {cs : List Nat} (hR : RoomD p) (h : p.parseAscii cs = .ok p') :
    RoomD p' := by
  induction cs generalizing p with
  | nil =>
    cases p with
    | failed e => rw [parseAscii_failed] at h; cases h
    | _ => cases (parseAscii_nil _ rfl).symm.trans h; exact hR
  | cons ch cs ih =>
    cases p with
    | failed e => rw [parseAscii_failed] at h; cases h
    | finite f =>
      rw [parseAscii_finite, finite_parseAscii_eq] at h
      obtain ⟨f', hq, rfl⟩ := Except.map_eq_ok.1 h
      exact capTest_room hR hq finite_steps_grow
    | infinity f =>
      rw [parseAscii_infinity, infinity_parseAscii_eq] at h
      obtain ⟨f', hq, rfl⟩ := Except.map_eq_ok.1 h
      exact capTest_room hR hq infinity_steps_grow
    | nan f =>
      rw [parseAscii_nan, nan_parseAscii_eq] at h
      obtain ⟨f', hq, rfl⟩ := Except.map_eq_ok.1 h
      exact capTest_room hR hq nan_steps_grow
    | atStart b neg =>
      rw [parseAscii_atStart] at h
      cases hs : DecimalParser.startStep b neg ch with
      | error e => rw [hs] at h; cases h
      | ok p1 => rw [hs] at h; exact ih (startStep_room hR hs) h

theorem parseAsciiC_eq {c : Bool} {p : DecimalParser} {cs rest : List Nat} (hI : InvD txt p (cs ++ rest)) (hR : RoomD p) :
    DecimalParserC.parseAscii c p cs = .ok (p.parseAscii cs) := by
  induction cs generalizing p with
  | nil =>
    cases p with
    | failed e => exact hI.elim
    | _ => unfold DecimalParserC.parseAscii; rw [parseAscii_nil _ rfl]
  | cons ch cs ih =>
    cases p with
    | failed e => exact hI.elim
    | finite f =>
      unfold DecimalParserC.parseAscii
      rw [parseAscii_finite, finite_parseAsciiC_eq hI.1 hI.2 hR]
      rfl
    | infinity f =>
      unfold DecimalParserC.parseAscii
      rw [parseAscii_infinity, infinity_parseAsciiC_eq hR]
      rfl
    | nan f =>
      unfold DecimalParserC.parseAscii
      rw [parseAscii_nan, nan_parseAsciiC_eq hI.1 hI.2 hR]
      rfl
    | atStart b neg =>
      unfold DecimalParserC.parseAscii
      rw [parseAscii_atStart, startStepC_eq hI hR]
      cases hs : DecimalParser.startStep b neg ch with
      | error e => rfl
      | ok p1 => exact ih ((stepD_view (.atStart b neg) ch (cs ++ rest) hI).2 p1 hs) (startStep_room hR hs)

theorem parseStrC_eq {c : Bool} (input : List Nat) : parseStrC c input = .ok (parseStr input) := by
  unfold parseStrC parseStr
  rw [parseAsciiC_eq (rest := []) (by simpa using invD_begin_str input)
    (by intro cap hc; simp [TextBuf.new] at hc)]
  cases (DecimalParser.begin (TextBuf.new .str input)).parseAscii input <;> rfl

theorem parseFiniteStrC_eq {c : Bool} (input : List Nat) : parseFiniteStrC c input = .ok (parseFiniteStr input) := by
  unfold parseFiniteStrC parseFiniteStr
  rw [finite_parseAsciiC_eq (rest := []) (invF_begin _) (by
      intro _; exact ⟨rfl, [], by simp [FiniteParser.begin, TextBuf.new], rfl⟩)
    (by intro cap hc; simp [FiniteParser.begin, TextBuf.new] at hc)]
  cases (FiniteParser.begin (TextBuf.new .str input)).parseAscii input <;> rfl

/-- `write!(parser, "{}", display)` over a copying buffer, where `InvD` holds whatever is still to come -/
theorem feedC_eq {c : Bool} {p : DecimalParser} (frags : List (List Nat)) (fault : Fault) (i : Nat)
    (hk : isFailed p = false → (∀ rest, InvD [] p rest) ∧ RoomD p) :
    feedC c p frags fault i = .ok (feed p frags fault i) := by
  induction frags generalizing p i with
  | nil => rw [feedC, feed_nil]
  | cons f rest ih =>
    cases hf : isFailed p with
    | true =>
      cases p with
      | failed e =>
        rw [feedC, feed_cons_failed]
        exact ok_ite (fun _ => rfl) fun _ => ok_ite (fun _ => ih _ nofun) fun _ => rfl
      | _ => cases hf
    | false =>
      obtain ⟨hI, hR⟩ := hk hf
      rw [feed_cons p f rest fault i, feedC, parseAsciiC_eq (rest := []) (hI _) hR]
      · refine ok_ite (fun _ => rfl) fun _ => ?_
        cases hp : p.parseAscii f with
        | error e => exact ok_ite (fun _ => ih _ nofun) fun _ => rfl
        | ok p' =>
          -- the fragment went in byte by byte, which keeps `InvD`
          exact ih _ fun _ =>
            ⟨fun r => (stepsD_view p f r (hI _)).2 p' (parseAscii_ok hp).2, parseAscii_room hR hp⟩
      · rintro e rfl; cases hf

/-- **`decimal_from_fmt`** up to `parser.end()`: for an array buffer of capacity at least 2 (32, 64 and 128 in the crate)
    or a vector buffer, any fragments and any behaviour of the `Display` implementation -/
theorem parseFmtC_eq {c : Bool} {kind : BufKind} (hk : kind ≠ .str) (hcap : ∀ cap, kind = .array cap → 2 ≤ cap)
    (frags : List (List Nat)) (fault : Fault) : parseFmtC c kind frags fault = .ok (parseFmt kind frags fault) := by
  -- the buffer starts empty: an array has room for the two unchecked bytes
  have h0 : Fits (TextBuf.new kind []) 2 := by
    cases kind with
    | str => exact absurd rfl hk
    | vec => nofun
    | array cp => exact fun cap hc => by cases hc; exact hcap cp rfl
  unfold parseFmtC parseFmt
  rw [feedC_eq frags fault 0 fun _ => ⟨invD_begin_copy kind hk, h0⟩]
  generalize feed (DecimalParser.begin (TextBuf.new kind [])) frags fault 0 = r
  obtain ⟨p, b⟩ := r
  cases b with
  | false => cases p <;> rfl
  | true => cases p <;> rfl

end Decstr.Proofs.Exec

#print axioms Decstr.Proofs.Exec.parseStrC_eq
#print axioms Decstr.Proofs.Exec.parseFiniteStrC_eq
#print axioms Decstr.Proofs.Exec.parseFmtC_eq
