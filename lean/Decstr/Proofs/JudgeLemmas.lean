import Decstr.Proofs.Basic
import Decstr.Proofs.Bits
import Decstr.Model.Api
/-!
# Proofs.JudgeLemmas — the building blocks of the run-time oracle (`Spec/Judge.lean`) and when they are silent

A judgement is a list of `chk cond tag message`; an answer is accepted when the list is `[]`.  The lemmas say when
`chk`, `judgeBytes` and `judgeOverflowErr` return `[]` (the message texts are never looked at), relate a held byte list
to a well-formed buffer, and name the width a type answers with.
-/
namespace Decstr.Proofs
open Decstr.Model Decstr.Spec

theorem chk_true (p w : String) : chk true p w = [] := rfl

@[simp] theorem chk_eq_nil (c : Bool) (p w : String) : chk c p w = [] ↔ c = true := by
  cases c <;> simp [chk]

theorem toBytes_length (b : Buf) : b.toBytes.length = b.len := leBytes_length _ _

theorem WF.toBytes_length {b : Buf} {n : Nat} (h : WF b n) : b.toBytes.length = 4 * n := by
  rw [Decstr.Proofs.toBytes_length, h.len]

/-- the width in words, as the oracle reads it off the answer -/
theorem WF.toBytes_words {b : Buf} {n : Nat} (h : WF b n) : b.toBytes.length / 4 = n := by
  rw [h.toBytes_length]; omega

theorem WF.ofLeBytes_toBytes {b : Buf} {n : Nat} (h : WF b n) : ofLeBytes b.toBytes = b.bits :=
  ofLeBytes_leBytes _ _ (by rw [h.len, show 8 * (4 * n) = 32 * n by omega]; exact h.lt)

theorem WF.ofBytes_toBytes {b : Buf} {n : Nat} (h : WF b n) : Buf.ofBytes b.toBytes = b := by
  rw [Buf.ofBytes, h.toBytes_length, h.ofLeBytes_toBytes, ← h.len]

theorem judgeBytes_eq_nil (prop : String) (n expect : Nat) (bytes : List Nat) :
    judgeBytes prop n expect bytes = [] ↔ bytes.length = 4 * n ∧ ofLeBytes bytes = expect := by
  simp only [judgeBytes, List.append_eq_nil_iff, chk_eq_nil, beq_iff_eq, Bool.or_eq_true, bne_iff_ne]
  exact ⟨fun ⟨h1, h2⟩ => ⟨h1, h2.resolve_left (fun h => h h1)⟩, fun ⟨h1, h2⟩ => ⟨h1, Or.inr h2⟩⟩

theorem judgeBytes_toBytes (prop : String) {b : Buf} {n : Nat} (h : WF b n) : judgeBytes prop n b.bits b.toBytes = [] :=
  (judgeBytes_eq_nil ..).2 ⟨h.toBytes_length, h.ofLeBytes_toBytes⟩

/-- what the oracle demands of an error answered for a numeral whose exponent text fits an `i32` -/
theorem judgeOverflowErr_eq_nil (capB d : Nat) (q : Option Int) (f : ErrFacts) :
    judgeOverflowErr capB d q true f = [] ↔ f.kind = "overflow" ∧ f.a = capB ∧ f.a < f.b ∧ f.b % 4 = 0 ∧
      (Fmt.mk (f.b / 4)).fitsB d q = true ∧ (f.big = 0 ∨ f.big ≤ f.b) := by
  by_cases hk : f.kind = "overflow" <;>
    simp [judgeOverflowErr, hk]

theorem judgeOverflowErr_truthful {cap n d : Nat} {q : Option Int} (hcn : cap < n)
    (hfit : (Fmt.mk n).fitsB d q = true) :
    judgeOverflowErr (4 * cap) d q true (errFacts (.overflow (.wouldOverflow (4 * cap) (4 * n)))) = [] := by
  rw [judgeOverflowErr_eq_nil]
  simp only [errFacts, Nat.mul_mod_right, Nat.mul_div_cancel_left n (show 0 < 4 by decide), hfit, true_and, true_or,
    and_true]
  omega

theorem judgeOverflowErr_exponent (capB d m : Nat) (q : Option Int) :
    judgeOverflowErr capB d q false (errFacts (.overflow (.exponentOutOfRange m))) = [] := by
  simp [judgeOverflowErr, errFacts]

theorem judgeOverflowErr_buffer (capB d : Nat) (q : Option Int) (x : Bool) (a b g : Nat) :
    judgeOverflowErr capB d q x ⟨"buffer", a, b, g⟩ ≠ [] := by
  cases x <;> simp [judgeOverflowErr, chk]

/-- the refusal arm of `judgeParse`: the refusal is justified and (then) truthfully reported -/
theorem refusal_eq_nil {P : Prop} [Decidable P] {p w : String} {cs : Complaints} :
    chk (decide P) p w ++ (if P then cs else []) = [] ↔ P ∧ cs = [] := by
  by_cases hP : P <;> simp [hP]

theorem holds_iff (T : Ty) (len : Nat) :
    T.holds len = true ↔ ∃ n, 0 < n ∧ len = 4 * n ∧ (∀ w, T.fixedN = some w → n = w) ∧ (∀ c, T.capN = some c → n ≤ c) := by
  -- at a multiple of 4 the tests of `holds` are the clauses
  have key : ∀ n, T.holds (4 * n) = true ↔
      0 < n ∧ (∀ w, T.fixedN = some w → n = w) ∧ (∀ c, T.capN = some c → n ≤ c) := fun n => by
    rcases T.kinds with ⟨w, -, -, hf, hc, -⟩ | rfl | rfl
    · simp only [Ty.holds, hf, hc, Nat.mul_mod_right, Bool.and_eq_true, decide_eq_true_eq, beq_iff_eq, Option.some.injEq,
        forall_eq', and_true]
      omega
    · simp [Ty.holds, Ty.fixedN, Ty.capN]; omega
    · simp [Ty.holds, Ty.fixedN, Ty.capN]
  constructor
  · intro h
    have h4 : len % 4 = 0 := by
      simp only [Ty.holds, Bool.and_eq_true, beq_iff_eq] at h
      exact h.1.2
    obtain ⟨n, rfl⟩ := Nat.dvd_of_mod_eq_zero h4
    exact ⟨n, ((key n).1 h).1, rfl, ((key n).1 h).2⟩
  · rintro ⟨n, hn, rfl, hw, hc⟩
    exact (key n).2 ⟨hn, hw, hc⟩

/-- what a held byte list gives; `printable` is `C02.Holds T n`, the hypothesis of the formatting theorems -/
structure HeldBytes (T : Ty) (bytes : List Nat) (n : Nat) : Prop where
  wf : WF (Buf.ofBytes bytes) n
  len : bytes.length = 4 * n
  fixed : ∀ w, T.fixedN = some w → n = w
  cap : ∀ c, T.capN = some c → n ≤ c
  printable : T.expIsI32 = true → n ≤ 5

theorem HeldBytes.words {T : Ty} {bytes : List Nat} {n : Nat} (H : HeldBytes T bytes n) : bytes.length / 4 = n := by
  rw [H.len]; omega

theorem HeldBytes.decode {T : Ty} {bytes : List Nat} {n : Nat} (H : HeldBytes T bytes n) :
    Spec.decode ⟨bytes.length / 4⟩ (ofLeBytes bytes) = Spec.decode ⟨n⟩ (Buf.ofBytes bytes).bits := by
  rw [H.words]; rfl

theorem HeldBytes.of {T : Ty} {bytes : List Nat} (h : T.holds bytes.length = true) (hb : ∀ x ∈ bytes, x < 256) :
    ∃ n, HeldBytes T bytes n := by
  obtain ⟨n, hn, hl, hw, hc⟩ := (holds_iff T _).1 h
  exact ⟨n, WF.ofBytes bytes n hn hl hb, hl, hw, hc, Ty.le_five_of_capN hc⟩

/-- what the oracle's width rules ask of the width `n` a conversion answers with, `nn` being the oracle's `need` of the
    numeral: `ofNeed` / `ofSelf` are the width it expects (`judgeFromInt` / `judgeFromFloat`), `dyn` and `fits` its C07 and
    capacity rules, `printable` is `C02.Holds T n` -/
structure AnswerWidth (T : Ty) (n nn : Nat) : Prop where
  ofNeed : (T.fixedN).getD nn = n
  dyn : T.fixedN = none → n = nn
  fits : (T.capN).all (nn ≤ ·) = true
  printable : T.expIsI32 = true → n ≤ 5
  ofSelf : (T.fixedN).getD n = n

/-- for a numeral that 160 bits can hold (`h5`); `hw` is the width clause of the conversion theorems (`C06.width_choice`) -/
theorem width_of_small_need {T : Ty} {n nn : Nat} (h5 : nn ≤ 5) (hle : nn ≤ n)
    (hw : match T.fixedN with
      | some w => n = w
      | none => n = nn ∨ (nn > 5 ∧ nn ≤ n ∧ n ≤ nn + 1)) : AnswerWidth T n nn := by
  rcases T.kinds with ⟨w, -, hw4, hfix, hcap, -⟩ | rfl | rfl
  · rw [hfix] at hw; subst hw
    refine ⟨by rw [hfix]; rfl, fun h => ?_, by rw [hcap]; simpa using hle, fun _ => by omega, by rw [hfix]; rfl⟩
    rw [hfix] at h; cases h
  · have hn : n = nn := by simp only [Ty.fixedN] at hw; omega
    exact ⟨hn.symm, fun _ => hn, by simpa [Ty.capN] using h5, fun _ => by omega, rfl⟩
  · have hn : n = nn := by simp only [Ty.fixedN] at hw; omega
    exact ⟨hn.symm, fun _ => hn, rfl, (fun h => nomatch h), rfl⟩

theorem stripZeros_length_le (ds : List Nat) : (stripZeros ds).length ≤ ds.length := by
  induction ds with
  | nil => simp [stripZeros]
  | cons d ds ih =>
    cases d with
    | zero => simp only [stripZeros, List.length_cons]; omega
    | succ k => simp [stripZeros]

theorem intValue_neg {c : Nat} {e v : Int} (hc : c ≠ 0) (h : intValue true c e = some v) : v < 0 := by
  -- both arms of `intValue` answer `-1 * m` for a positive natural `m`
  have key : ∀ m : Nat, 0 < m → (if true = true then -1 else 1) * (m : Int) < 0 := fun m hm => by
    rw [if_pos rfl]; omega
  have hc' := Nat.pos_of_ne_zero hc
  unfold intValue at h
  rw [if_neg hc] at h
  by_cases he : e ≥ 0
  · rw [if_pos he] at h
    by_cases h41 : e > 41
    · rw [if_pos h41] at h; cases h
    · rw [if_neg h41] at h; cases h
      exact key _ (Nat.mul_pos hc' (Nat.pow_pos (by decide)))
  · rw [if_neg he] at h
    by_cases hk : (-e).toNat > digits10 c
    · rw [if_pos hk] at h; cases h
    · rw [if_neg hk] at h
      by_cases hm : c % 10 ^ (-e).toNat = 0
      · rw [if_pos hm] at h; cases h
        exact key _ (Nat.div_pos (Nat.le_of_dvd hc' (Nat.dvd_of_mod_eq_zero hm)) (Nat.pow_pos (by decide)))
      · rw [if_neg hm] at h; cases h

theorem _root_.Decstr.Spec.Datum.same_self (d : Datum) : d.same d = true := by
  cases d <;> simp [Datum.same]

end Decstr.Proofs

#print axioms Decstr.Proofs.ofLeBytes_leBytes
#print axioms Decstr.Proofs.holds_iff
