import Decstr.Model.Convert
/-!
# Proofs.Basic — vocabulary shared by the proof files
-/
namespace Decstr.Proofs
open Decstr.Model Decstr.Spec

/-- every element is an ASCII digit `'0'..'9'` -/
def AsciiDigits (ds : List Nat) : Prop := ∀ d ∈ ds, 48 ≤ d ∧ d ≤ 57

/-- the digit values of an ASCII digit string -/
def digitVals (ds : List Nat) : List Nat := ds.map (· - 48)

/-- the number an ASCII digit string denotes -/
def valOf (ds : List Nat) : Nat := ofDigits (digitVals ds)

/-- A table over `v < N` as one Boolean for the kernel to evaluate: `forall_lt_of_all (by decide +kernel)`.  Deciding the
    bounded quantifier itself (`by decide +kernel` on `∀ v < N, P v`) also works but costs half as much again, for
    unfolding `Nat.decidableBallLT` at every row. -/
theorem forall_lt_of_all {P : Nat → Prop} [DecidablePred P] {N : Nat}
    (h : (List.range N).all (fun v => decide (P v)) = true) : ∀ v < N, P v := fun v hv =>
  of_decide_eq_true (List.all_eq_true.1 h v (List.mem_range.2 hv))

/-- a fixed width `w ≤ 4` words (which is also the capacity), `Bitstring` (up to 5 words), or `BigBitstring` (unbounded) -/
theorem _root_.Decstr.Spec.Ty.kinds (T : Ty) :
    (∃ w, 0 < w ∧ w ≤ 4 ∧ T.fixedN = some w ∧ T.capN = some w ∧ T.expIsI32 = true) ∨ T = .dyn ∨ T = .big := by
  cases T <;> simp [Ty.fixedN, Ty.capN, Ty.expIsI32]

theorem _root_.Decstr.Spec.Ty.capN_bounds {T : Ty} {cap : Nat} (h : T.capN = some cap) : 0 < cap ∧ cap ≤ 5 := by
  rcases T.kinds with ⟨w, h0, h4, _, hc, _⟩ | rfl | rfl
  · rw [hc] at h; cases h; exact ⟨h0, by omega⟩
  · cases h; decide
  · cases h

theorem _root_.Decstr.Spec.Ty.expIsI32_iff_ne_big (T : Ty) : T.expIsI32 = true ↔ T ≠ .big := by
  cases T <;> simp [Ty.expIsI32]

theorem _root_.Decstr.Spec.Ty.expIsI32_of_capN {T : Ty} {cap : Nat} (h : T.capN = some cap) : T.expIsI32 = true :=
  (Ty.expIsI32_iff_ne_big T).2 (by rintro rfl; cases h)

theorem _root_.Decstr.Spec.Ty.capN_of_expIsI32 {T : Ty} (h : T.expIsI32 = true) : ∃ cap, T.capN = some cap ∧ cap ≤ 5 := by
  rcases T.kinds with ⟨w, _, h4, _, hc, _⟩ | rfl | rfl
  · exact ⟨w, hc, by omega⟩
  · exact ⟨5, rfl, Nat.le_refl 5⟩
  · cases h

/-- a width within the capacity of a type with `i32` exponents is at most 5 words: applied to `hc` alone this is
    `C02.Holds T n`, the bound under which the `i32` exponent arithmetic of the formatter does not saturate -/
theorem _root_.Decstr.Spec.Ty.le_five_of_capN {T : Ty} {n : Nat} (hc : ∀ c, T.capN = some c → n ≤ c) (h : T.expIsI32 = true) : n ≤ 5 := by
  obtain ⟨cap, hcap, h5⟩ := Ty.capN_of_expIsI32 h
  exact Nat.le_trans (hc cap hcap) h5

theorem _root_.Decstr.Spec.Ty.fixedN_facts {T : Ty} {w : Nat} (h : T.fixedN = some w) : 0 < w ∧ w ≤ 4 ∧ T.capN = some w := by
  rcases T.kinds with ⟨w', h0, h4, hf, hc, _⟩ | rfl | rfl
  · rw [hf] at h; cases h; exact ⟨h0, h4, hc⟩
  · cases h
  · cases h

/-- a well-formed buffer of `4n` bytes: `n ≥ 1` and the bits fit -/
structure WF (b : Buf) (n : Nat) : Prop where
  pos : 0 < n
  len : b.len = 4 * n
  lt : b.bits < 2 ^ (32 * n)

theorem WF.len_pos {b : Buf} {n : Nat} (h : WF b n) : 0 < b.len :=
  h.len ▸ Nat.mul_pos (by decide) h.pos

theorem ofLeBytes_lt (l : List Nat) (hb : ∀ x ∈ l, x < 256) : ofLeBytes l < 2 ^ (8 * l.length) := by
  induction l with
  | nil => simp [ofLeBytes]
  | cons x xs ih =>
    have hx : x < 256 := hb x (by simp)
    have := ih (fun y hy => hb y (by simp [hy]))
    simp only [ofLeBytes, List.length_cons]
    rw [Nat.mul_succ, Nat.pow_add]; omega

theorem WF.ofBytes (l : List Nat) (n : Nat) (hn : 0 < n) (hl : l.length = 4 * n) (hb : ∀ x ∈ l, x < 256) :
    WF (Buf.ofBytes l) n := by
  refine ⟨hn, hl, ?_⟩
  have := ofLeBytes_lt l hb
  rwa [hl, ← Nat.mul_assoc] at this

end Decstr.Proofs
