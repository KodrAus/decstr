import Decstr.Proofs.ParserSpec
/-!
# Proofs.ParserErr — which answer the semantic automaton gives, in the specification's terms (C17)

A prefix is viable (has a grammatical completion) exactly when the automaton is still running after it.  Hence
`Spec.viable` decides "some continuation is a numeral", and the automaton names the first byte after which no
completion exists and reports an unexpected end exactly for the proper prefixes of numerals.  Of the model only the
error type `ParseErr` occurs here, no parser and no buffer.
-/
namespace Decstr.Proofs
open Decstr.Model Decstr.Spec

theorem Sem.run_append (s : Sem) (a b : List Nat) :
    s.run (a ++ b) = match s.run a with | .ok s' => s'.run b | .error e => .error e := by
  induction a generalizing s with
  | nil => rfl
  | cons c cs ih =>
    simp only [List.cons_append, Sem.run]
    cases s.step c with
    | none => rfl
    | some s' => exact ih s'

theorem Sem.run_error_split {s : Sem} {txt : List Nat} {e : ParseErr} (h : s.run txt = .error e) :
    ∃ a c b s', e = .char c ∧ txt = a ++ c :: b ∧ s.run a = .ok s' ∧ s'.step c = none := by
  induction txt generalizing s with
  | nil => cases h
  | cons d ds ih =>
    simp only [Sem.run] at h
    cases hs : s.step d with
    | none => rw [hs] at h; cases h; exact ⟨[], d, ds, s, rfl, rfl, rfl, hs⟩
    | some s1 =>
      rw [hs] at h
      obtain ⟨a, c, b, s', he, rfl, h2, h3⟩ := ih h
      exact ⟨d :: a, c, b, s', he, rfl, by simp only [Sem.run, hs]; exact h2, h3⟩

def Sem.runs (s : Sem) (cs : List Nat) : Prop := ∃ s', s.run cs = .ok s'

theorem Sem.runs_of_append {s : Sem} {a b : List Nat} (h : s.runs (a ++ b)) : s.runs a := by
  obtain ⟨s', h⟩ := h
  rw [Sem.run_append] at h
  cases ha : s.run a with
  | ok s1 => exact ⟨s1, ha⟩
  | error e => rw [ha] at h; cases h

theorem Sem.runs_take {s : Sem} {txt : List Nat} (i : Nat) (h : s.runs txt) : s.runs (txt.take i) := by
  rw [← List.take_append_drop i txt] at h
  exact Sem.runs_of_append h

/-- the proper suffixes of `infinity` -/
def InfSuffix (l : List Nat) : Prop :=
  l = [110, 102, 105, 110, 105, 116, 121] ∨ l = [102, 105, 110, 105, 116, 121] ∨ l = [105, 110, 105, 116, 121] ∨
  l = [110, 105, 116, 121] ∨ l = [105, 116, 121] ∨ l = [116, 121] ∨ l = [121] ∨ l = []

theorem InfSuffix.tail {e : Nat} {es : List Nat} (h : InfSuffix (e :: es)) : InfSuffix es := by
  unfold InfSuffix at h ⊢
  rcases h with h | h | h | h | h | h | h | h <;> cases h <;> decide

/-- the states the automaton can be in: the keyword being matched is a proper suffix, and a NaN payload
    exists exactly once the parenthesis is open -/
def SemOK : Sem → Prop
  | .start _ => True
  | .fin _ => True
  | .inf s => InfSuffix s.expecting
  | .nan s =>
      (s.expecting = [110, 97, 110, 40, 41] ∧ s.payload = none) ∨ (s.expecting = [97, 110, 40, 41] ∧ s.payload = none) ∨
      (s.expecting = [110, 40, 41] ∧ s.payload = none) ∨ (s.expecting = [40, 41] ∧ s.payload = none) ∨
      (s.expecting = [41] ∧ s.payload.isSome = true) ∨ (s.expecting = [] ∧ s.payload.isSome = true)

theorem SemOK.step {s s' : Sem} {c : Nat} (h : SemOK s) (hs : s.step c = some s') : SemOK s' := by
  revert hs
  -- case1–case7: the branches of the `.start` arm of `Sem.step` in the order of its text (digit, `-`, `+`, `s`, `n`,
  -- `i`, rejected); case8–case10: the `.fin`, `.inf`, `.nan` arms
  fun_cases Sem.step s c
  case case1 | case2 | case3 => rintro ⟨⟩; trivial
  case case4 => rintro ⟨⟩; exact .inl ⟨rfl, rfl⟩
  case case5 => rintro ⟨⟩; exact .inr (.inl ⟨rfl, rfl⟩)
  case case6 => rintro ⟨⟩; exact .inl rfl
  case case7 => nofun
  case case8 f => cases f.step c <;> rintro ⟨⟩; trivial  -- every `.fin` state counts as reachable
  case case9 f =>
    fun_cases SInf.step f c
    case case1 e es he _ => intro hs; cases hs; have h' : InfSuffix f.expecting := h; rw [he] at h'; exact h'.tail
    all_goals nofun
  case case10 f =>
    obtain ⟨ex, sig, neg, pl⟩ := f
    -- every live branch of `SNan.step` is `if p then some t else none` with `t` a reachable state again
    have key : ∀ {p : Prop} [Decidable p] {t : SNan}, SemOK (.nan t) →
        Option.map Sem.nan (if p then some t else none) = some s' → SemOK s' := by
      intro p _ t ht hs
      rw [Option.map_if, Option.ite_none_right_eq_some] at hs
      cases hs.2; exact ht
    rcases h with ⟨rfl, rfl⟩ | ⟨rfl, rfl⟩ | ⟨rfl, rfl⟩ | ⟨rfl, rfl⟩ | ⟨rfl, h2⟩ | ⟨rfl, h2⟩
    · rw [SNan.step_letter (by decide) (by decide)]; exact key (by simp [SemOK])
    · rw [SNan.step_letter (by decide) (by decide)]; exact key (by simp [SemOK])
    · rw [SNan.step_letter (by decide) (by decide)]; exact key (by simp [SemOK])
    · rw [SNan.step_open]; exact key (by simp [SemOK])
    · obtain ⟨ds, rfl⟩ := Option.isSome_iff_exists.1 h2
      cases hd : isDigit c
      · rw [SNan.step_close_nondigit hd]; exact key (by simp [SemOK])
      · rw [SNan.step_close_digit hd]
        intro hs; cases hs; simp [SemOK]
    · rw [SNan.step_nil]; nofun

theorem SemOK.run {s s' : Sem} {cs : List Nat} (h : SemOK s) (hs : s.run cs = .ok s') : SemOK s' := by
  induction cs generalizing s with
  | nil => injection hs with hs; subst hs; exact h
  | cons c cs ih =>
    simp only [Sem.run] at hs
    cases h1 : s.step c with
    | none => rw [h1] at hs; cases hs
    | some s1 => rw [h1] at hs; exact ih (h.step h1) hs

theorem completions_eq : completions =
    [[], [48], [41], [105, 110, 102], [110, 102], [102], [110, 105, 116, 121], [105, 116, 121], [116, 121], [121],
     [110, 97, 110], [97, 110], [110], [115, 110, 97, 110]] := by decide +kernel

theorem SemOK.completion (s : Sem) (h : SemOK s) : ∃ c ∈ completions, (s.accept c).isSome = true := by
  rw [completions_eq]
  cases s with
  | start neg => exact ⟨[48], by decide, rfl⟩
  | fin f =>
    cases hd : f.hasDigits
    · refine ⟨[48], by decide, ?_⟩
      simp [Sem.accept, Sem.step, f.step_digit (c := 48) rfl, Sem.finish, SFin.finish, SFin.pushDigits]
    · exact ⟨[], by decide, by simp [Sem.accept, Sem.finish, SFin.finish, hd]⟩
  | inf f =>
    obtain ⟨ex, neg⟩ := f
    simp only [SemOK] at h
    rcases h with rfl | rfl | rfl | rfl | rfl | rfl | rfl | rfl
    · exact ⟨[110, 102], by decide, rfl⟩
    · exact ⟨[102], by decide, rfl⟩
    · exact ⟨[], by decide, rfl⟩
    · exact ⟨[110, 105, 116, 121], by decide, rfl⟩
    · exact ⟨[105, 116, 121], by decide, rfl⟩
    · exact ⟨[116, 121], by decide, rfl⟩
    · exact ⟨[121], by decide, rfl⟩
    · exact ⟨[], by decide, rfl⟩
  | nan f =>
    obtain ⟨ex, sig, neg, pl⟩ := f
    simp only [SemOK] at h
    rcases h with ⟨rfl, rfl⟩ | ⟨rfl, rfl⟩ | ⟨rfl, rfl⟩ | ⟨rfl, rfl⟩ | ⟨rfl, h2⟩ | ⟨rfl, h2⟩
    · exact ⟨[110, 97, 110], by decide, rfl⟩
    · exact ⟨[97, 110], by decide, rfl⟩
    · exact ⟨[110], by decide, rfl⟩
    · exact ⟨[], by decide, rfl⟩
    · obtain ⟨ds, rfl⟩ := Option.isSome_iff_exists.1 h2
      exact ⟨[41], by decide, rfl⟩
    · obtain ⟨ds, rfl⟩ := Option.isSome_iff_exists.1 h2
      exact ⟨[], by decide, rfl⟩

theorem parse_eq_run (txt : List Nat) :
    parse txt = match (Sem.start none).run txt with | .ok s => s.finish | .error _ => none := by
  rw [← semParse_eq_parse, semParse, Sem.accept_eq_run]
  rfl

theorem runs_of_parse {p q : List Nat} (h : (parse (p ++ q)).isSome) : (Sem.start none).runs p := by
  rw [parse_eq_run] at h
  cases hr : (Sem.start none).run (p ++ q) with
  | error e => rw [hr] at h; cases h
  | ok s' => exact Sem.runs_of_append ⟨s', hr⟩

theorem viable_iff_runs (p : List Nat) : viable p = true ↔ (Sem.start none).runs p := by
  unfold viable
  rw [List.any_eq_true]
  constructor
  · rintro ⟨c, -, hc⟩
    exact runs_of_parse hc
  · rintro ⟨s, hs⟩
    obtain ⟨c, hc1, hc2⟩ := (SemOK.run (s := .start none) trivial hs).completion
    refine ⟨c, hc1, ?_⟩
    rw [parse_eq_run, Sem.run_append, hs]
    rw [Sem.accept_eq_run] at hc2
    exact hc2

/-- **`Spec.viable` means what it says**: a prefix passes the finite test of `viable` (one of 14 listed
    completions makes it a numeral) iff *some* continuation makes it a numeral. -/
theorem viable_iff (p : List Nat) : viable p = true ↔ ∃ q, (parse (p ++ q)).isSome := by
  constructor
  · intro h
    obtain ⟨c, -, hc⟩ := List.any_eq_true.1 h
    exact ⟨c, hc⟩
  · rintro ⟨q, h⟩
    exact (viable_iff_runs p).2 (runs_of_parse h)

theorem viable_of_append {p q : List Nat} (h : viable (p ++ q) = true) : viable p = true := by
  rw [viable_iff_runs] at h ⊢
  exact Sem.runs_of_append h

theorem parse_none_of_not_viable {p : List Nat} (h : viable p = false) (q : List Nat) : parse (p ++ q) = none := by
  cases hq : parse (p ++ q) with
  | none => rfl
  | some num =>
    have := (viable_iff p).mpr ⟨q, by rw [hq]; rfl⟩
    rw [h] at this; cases this

/-- `1e+` is a viable prefix: some continuation (here `7`) is a numeral; `1e+-` is not -/
example : viable [49, 101, 43] = true := (viable_iff _).mpr ⟨[55], by decide +kernel⟩
example (q : List Nat) : parse ([49, 101, 43, 45] ++ q) = none :=
  parse_none_of_not_viable (by decide +kernel) q

/-- the scan from `i`: every position below its answer (below the end of the text when there is none, hence `getD`) is
    viable, and the answer is a position that is not -/
theorem firstBadFrom_spec (txt : List Nat) (fuel i : Nat) (hf : txt.length < fuel + i) :
    (∀ j, i ≤ j → j < (firstBadFrom txt fuel i).getD txt.length → viable (txt.take (j + 1)) = true) ∧
    ∀ k, firstBadFrom txt fuel i = some k → k < txt.length ∧ viable (txt.take (k + 1)) = false := by
  induction fuel generalizing i with
  | zero =>
    exact ⟨fun j h1 h2 => absurd (Nat.lt_of_le_of_lt h1 h2) (Nat.lt_asymm (Nat.zero_add i ▸ hf)), nofun⟩
  | succ fuel ih =>
    rw [firstBadFrom]
    by_cases hlt : i < txt.length
    · by_cases hv : viable (txt.take (i + 1)) = true
      · -- position `i` is viable: the scan goes on from `i + 1`
        rw [if_pos hlt, if_pos hv]
        obtain ⟨h1, h2⟩ := ih (i + 1) (by omega)
        exact ⟨fun j hj hk => (Nat.eq_or_lt_of_le hj).elim (fun e => e ▸ hv) fun h => h1 j h hk, h2⟩
      · rw [if_pos hlt, if_neg hv]
        exact ⟨fun j h1 h2 => absurd h2 (Nat.not_lt.2 h1), fun k hk => Option.some.inj hk ▸ ⟨hlt, by simpa using hv⟩⟩
    · rw [if_neg hlt]
      exact ⟨fun j h1 h2 => absurd (Nat.lt_of_le_of_lt h1 h2) hlt, nofun⟩

theorem firstBad_some {txt : List Nat} {k : Nat} (h : firstBad txt = some k) :
    k < txt.length ∧ viable (txt.take (k + 1)) = false ∧ ∀ j, j < k → viable (txt.take (j + 1)) = true := by
  obtain ⟨h1, h2⟩ := firstBadFrom_spec txt (txt.length + 1) 0 (by omega)
  exact ⟨(h2 k h).1, (h2 k h).2, fun j hj => h1 j (Nat.zero_le j) (by rw [← firstBad, h]; exact hj)⟩

theorem firstBad_none {txt : List Nat} (h : firstBad txt = none) :
    ∀ j, j < txt.length → viable (txt.take (j + 1)) = true :=
  fun j hj => (firstBadFrom_spec txt (txt.length + 1) 0 (by omega)).1 j (Nat.zero_le j) (by rw [← firstBad, h]; exact hj)

/-- `firstBad` is the least position whose prefix (the byte included) is not viable -/
theorem firstBad_eq_some {txt : List Nat} {k : Nat} (hk : k < txt.length) (hbad : viable (txt.take (k + 1)) = false)
    (hok : ∀ j, j < k → viable (txt.take (j + 1)) = true) : firstBad txt = some k := by
  cases hfb : firstBad txt with
  | none => rw [firstBad_none hfb k hk] at hbad; cases hbad
  | some i =>
    obtain ⟨-, i2, i3⟩ := firstBad_some hfb
    rcases Nat.lt_trichotomy i k with h | h | h
    · rw [hok i h] at i2; cases i2
    · rw [h]
    · rw [i3 k h] at hbad; cases hbad

theorem not_viable_iff (p : List Nat) : viable p = false ↔ ¬ (Sem.start none).runs p := by
  rw [← viable_iff_runs]; simp

theorem run_error_firstBad {txt : List Nat} {e : ParseErr} (h : (Sem.start none).run txt = .error e) :
    ∃ i c, firstBad txt = some i ∧ txt[i]? = some c ∧ e = .char c := by
  obtain ⟨a, c, b, s', rfl, rfl, h2, h3⟩ := Sem.run_error_split h
  refine ⟨a.length, c, firstBad_eq_some (by simp) ?_ fun j hj => ?_, by simp, rfl⟩
  · rw [not_viable_iff, List.take_length_add_append]
    rintro ⟨s2, hs2⟩
    rw [Sem.run_append, h2] at hs2
    simp [Sem.run, h3] at hs2
  · rw [viable_iff_runs, List.take_append_of_le_length (by omega)]
    exact Sem.runs_take (j + 1) ⟨s', h2⟩

theorem firstBad_of_runs {txt : List Nat} (h : (Sem.start none).runs txt) : firstBad txt = none := by
  cases hfb : firstBad txt with
  | none => rfl
  | some k => exact absurd (Sem.runs_take (k + 1) h) ((not_viable_iff _).1 (firstBad_some hfb).2.1)

theorem firstBad_parse {txt : List Nat} {k : Nat} (h : firstBad txt = some k) : parse txt = none := by
  have := parse_none_of_not_viable (firstBad_some h).2.1 (txt.drop (k + 1))
  rwa [List.take_append_drop] at this

/-- what the string entry point must answer, computed from `Spec.parse` and `Spec.firstBad` alone: the numeral of a
    grammatical text; otherwise the first byte after which no completion exists; otherwise an unexpected end -/
def refAnswer (txt : List Nat) : Except ParseErr Numeral :=
  match parse txt, firstBad txt with
  | some n, _ => .ok n
  | none, some i => .error (.char (txt.getD i 0))
  | none, none => .error .endOfInput

theorem refAnswer_eq_ok {txt : List Nat} {n : Numeral} : refAnswer txt = .ok n ↔ parse txt = some n := by
  unfold refAnswer
  split
  next hp => simp [hp]
  next hp _ => simp [hp]
  next hp _ => simp [hp]

theorem refAnswer_eq_char {txt : List Nat} {c : Nat} :
    refAnswer txt = .error (.char c) ↔ ∃ i, firstBad txt = some i ∧ txt[i]? = some c := by
  constructor
  · intro h
    unfold refAnswer at h
    split at h <;> cases h
    next i _ hi =>
      exact ⟨i, hi, by rw [List.getD_eq_getElem?_getD, List.getElem?_eq_getElem (firstBad_some hi).1]; rfl⟩
  · rintro ⟨i, hi, hc⟩
    simp only [refAnswer, firstBad_parse hi, hi, List.getD_eq_getElem?_getD, hc, Option.getD_some]

theorem refAnswer_eq_end {txt : List Nat} :
    refAnswer txt = .error .endOfInput ↔ firstBad txt = none ∧ (parse txt).isNone := by
  unfold refAnswer
  split
  next hp => simp [hp]
  next hp hf => simp [hp, hf]
  next hp hf => simp [hp, hf]

theorem semParseE_eq_ref (txt : List Nat) : semParseE txt = refAnswer txt := by
  unfold refAnswer
  rw [parse_eq_run]
  unfold semParseE
  cases hr : (Sem.start none).run txt with
  | error e =>
    obtain ⟨i, c, hi, hc, rfl⟩ := run_error_firstBad hr
    simp [hi, List.getD, hc]
  | ok s =>
    cases hf : s.finish with
    | some n => simp [Sem.finishE, hf]
    | none => simp [Sem.finishE, hf, firstBad_of_runs ⟨s, hr⟩]

end Decstr.Proofs

#print axioms Decstr.Proofs.viable_iff
#print axioms Decstr.Proofs.viable_of_append
#print axioms Decstr.Proofs.parse_none_of_not_viable
