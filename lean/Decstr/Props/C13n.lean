import Decstr.Props.C13
import Decstr.Proofs.RneCorrect
/-!
# C13, end to end: a `Some` is the binary float nearest to the decimal's exact value

`C13_sound` says `to_f32/to_f64` return `Spec.rneDecSafe` of the decoded (sign, coefficient, exponent);
`Proofs.Rne.rneDecSafe_correct` says `rneDecSafe` is IEEE round-to-nearest-even over exact rationals.  Composed here.
`Rne.err B num den bits` is the distance `|num/den − value(bits)|` scaled by the positive constant `den·2^shiftOf B`
(`err_rat` in Proofs/RneCorrectRat).
-/
namespace Decstr.Props.C13
open Decstr.Model Decstr.Spec Decstr.Proofs Decstr.Proofs.Rne

/-- **C13 (nearest).** For a finite decimal with non-zero coefficient `c`, a `Some bits` answer splits into the decimal's
    sign and a finite magnitude `m` that is nearest to the exact value `c·10^e` among all finite patterns, and even on a tie. -/
theorem C13_nearest (b : Buf) (n : Nat) (h : WF b n) (B : BinFmt) (hB : B = binary32 ∨ B = binary64)
    (hfin : isFinite b = true) (bits : Nat) (hv : toFloat b B = some bits) :
    ∃ s c e m, decode ⟨n⟩ b.bits = .fin s c e ∧ bits = (if s then B.signMask else 0) + m ∧ m < B.infBits ∧
      (0 < c →
        (∀ m', m' < B.infBits → err B (decNum c e) (decDen e) m ≤ err B (decNum c e) (decDen e) m') ∧
        (∀ m', m' < B.infBits → m' ≠ m → err B (decNum c e) (decDen e) m' = err B (decNum c e) (decDen e) m → m % 2 = 0)) := by
  obtain ⟨s, c, e, m, hd, hr, hm, hb⟩ := C13_sound b n h B hB hfin bits hv
  refine ⟨s, c, e, m, hd, hb, hm, fun hc => ?_⟩
  obtain ⟨_, h2, h3⟩ := (rneDecSafe_correct B (safe_of_std hB) (bounds_of_std hB).1 c hc e).1 m hr
  exact ⟨h2, h3⟩

/-- **C13 (overflow, exactly).** For a finite decimal with non-zero coefficient the answer is `None` as soon as the exact
    value is at least half an ulp above the largest finite float: `c·10^e ≥ (2^prec − 1/2)·2^(emax − prec + 1)`. -/
theorem C13_overflow_threshold (b : Buf) (n : Nat) (h : WF b n) (B : BinFmt) (hB : B = binary32 ∨ B = binary64)
    (s : Bool) (c : Nat) (hc : 0 < c) (e : Int) (hd : decode ⟨n⟩ b.bits = .fin s c e)
    (hbig : decDen e * ((2 ^ (B.prec + 1) - 1) * 2 ^ (2 ^ (B.ebits - 1) - 1)) ≤ decNum c e * 2 ^ B.prec) :
    toFloat b B = none := by
  exact C13_overflow b n h B hB s c e hd
    ((rneDecSafe_correct B (safe_of_std hB) (bounds_of_std hB).1 c hc e).2.mpr hbig)

/-- non-vacuity: the 32-bit decimal `1E-1` converts to the double nearest to 0.1 -/
example : toFloat (Buf.ofBytes [0x01, 0x00, 0x40, 0x22]) binary64 = some 0x3fb999999999999a := by decide +kernel

end Decstr.Props.C13

#print axioms Decstr.Props.C13.C13_nearest
#print axioms Decstr.Props.C13.C13_overflow_threshold
