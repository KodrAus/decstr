import Decstr.Props.C10
import Decstr.Props.C12
import Decstr.Proofs.JudgeLemmas
import Decstr.Proofs.JudgeText
import Decstr.Proofs.ParserFiniteStr
import Decstr.Proofs.Grammar
/-!
# C17 for the `TryFrom<int>` / `TryFrom<f32|f64>` impls: the refusal is a truthful width overflow

`fromIntT` / `fromFloatT` (Model/Convert.lean) are the trait impls: the pipeline of the inherent `from_<int>` /
`from_f32|f64` methods, except that the `OverflowError` of `decimal_from_parsed` is returned instead of being dropped.
Both end in `fromTextT` on a text the finite-only parser reads as the full one does, so an `Err` is `try_parse_str`'s on
the same text: the overflow arm of `C06.FiniteOutcome` (`fromTextT_error_truthful`).
-/
namespace Decstr.Props.C17conv
open Decstr.Model Decstr.Spec Decstr.Proofs Decstr.Proofs.Judge

theorem fromText_of_fromTextT (T : Ty) (inf : Bool) (txt : List Nat) :
    fromText T inf txt = match fromTextT T inf txt with
      | none => .panic
      | some (.ok b) => .ok b
      | some (.error _) => .none := by
  unfold fromText fromTextT
  cases parseFiniteStr txt with
  | error e => rfl
  | ok p =>
    simp only []
    cases fromParsed T p with
    | ok b => rfl
    | error e => cases inf <;> rfl

theorem fromInt_of_fromIntT (T : Ty) (I : IntTy) (v : Int) :
    fromInt T I v = match fromIntT T I v with
      | none => .panic
      | some (.ok b) => .ok b
      | some (.error _) => .none :=
  fromText_of_fromTextT T _ _

theorem fromFloat_of_fromFloatT (T : Ty) (B : BinFmt) (bits : Nat) (ryu : List Nat) :
    fromFloat T B bits ryu = match fromFloatT T B bits ryu with
      | none => .panic
      | some (.ok b) => .ok b
      | some (.error _) => .none := by
  unfold fromFloat fromFloatT
  by_cases hn : B.isNan bits = true
  · simp only [hn, if_true]
    cases fromParsed T _ with
    | ok b => rfl
    | error e => cases T.floatInfallible B <;> rfl
  · simp only [hn, Bool.false_eq_true, if_false]
    by_cases hi : B.isInf bits = true
    · simp only [hi, if_true]
      cases fromParsed T _ with
      | ok b => rfl
      | error e => cases T.floatInfallible B <;> rfl
    · simp only [hi, Bool.false_eq_true, if_false]
      exact fromText_of_fromTextT T _ _

theorem tryParseStr_of_fromTextT_error (T : Ty) (inf : Bool) (txt : List Nat) (hs : parseFiniteStr txt = parseStr txt)
    (e : OverflowErr) (h : fromTextT T inf txt = some (.error e)) :
    inf = false ∧ tryParseStr T txt = .error (.overflow e) := by
  unfold fromTextT at h
  unfold tryParseStr
  rw [hs] at h
  cases hp : parseStr txt with
  | error pe => rw [hp] at h; cases h
  | ok p =>
    rw [hp] at h
    simp only at h ⊢
    cases hf : fromParsed T p with
    | ok b => rw [hf] at h; cases h
    | error oe =>
      rw [hf] at h
      cases inf with
      | true => cases h
      | false => cases h; exact ⟨rfl, rfl⟩

theorem judgeConvErr_truthful (T : Ty) (d : Nat) (q : Int) (cap n : Nat) (hcap : T.capN = some cap) (hcn : cap < n)
    (hfit : (Fmt.mk n).fitsB d (some q) = true) :
    judgeConvErr T d q (errFacts (.overflow (.wouldOverflow (4 * cap) (4 * n)))) = [] := by
  simp only [judgeConvErr.eq_def, hcap]
  split
  · exact judgeOverflowErr_truthful hcn hfit
  · rfl

theorem parse_agree_finite (txt : List Nat) (s : Bool) (i fr : List Nat) (ex : Option (Bool × List Nat))
    (hp : Spec.parse txt = some (.finite s i fr ex)) : parseFiniteStr txt = parseStr txt := by
  obtain ⟨sg, so, d, rest, rfl, hs, hd⟩ := finite_text hp (datum_finite s i fr ex)
  exact parseFiniteStr_eq_parseStr_sign hs d rest hd

/-- **C17 for both `TryFrom` families at once** -/
theorem fromTextT_error_truthful (T : Ty) (inf : Bool) (txt : List Nat) (s : Bool) (i fr : List Nat)
    (ex : Option (Bool × List Nat)) (hp : Spec.parse txt = some (.finite s i fr ex)) (hx : inI32 (expValue ex) = true)
    (e : OverflowErr) (he : fromTextT T inf txt = some (.error e)) :
    inf = false ∧ ∃ cap n, T.capN = some cap ∧ e = .wouldOverflow (4 * cap) (4 * n) ∧ cap < n ∧
      cap < need (i ++ fr).length (some (expValue ex - fr.length)) ∧
      (Fmt.mk n).fitsB (i ++ fr).length (some (expValue ex - fr.length)) = true := by
  obtain ⟨hinf, hr⟩ := tryParseStr_of_fromTextT_error T _ _ (parse_agree_finite txt s i fr ex hp) e he
  -- the `wouldOverflow` arm of `C06.FiniteOutcome`: `C04.C17_overflow` plus `cap < need d (some q)`
  have hout := C06.C01_tryParseStr_finite T txt s i fr ex hp
  rw [hr, ← List.length_append] at hout
  rcases hout.error with ⟨hxx, -⟩ | ⟨-, cap, n, h, hc, hlt, hcn, hf⟩
  · simp [hx] at hxx
  · cases h
    exact ⟨hinf, cap, n, hc, rfl, hcn, hlt, hf⟩

/-- **C17 (`TryFrom<int>`) for any integer whatever** -/
theorem C17_conv_int' (T : Ty) (I : IntTy) (v : Int) (e : OverflowErr) (he : fromIntT T I v = some (.error e)) :
    T.intInfallible I = false ∧
    ∃ cap n, T.capN = some cap ∧ e = .wouldOverflow (4 * cap) (4 * n) ∧ cap < n ∧
      cap < need (digits10 v.natAbs) (some 0) ∧ (Fmt.mk n).fitsB (digits10 v.natAbs) (some 0) = true := by
  have h := fromTextT_error_truthful T _ (toDecimal v) _ _ [] none (parse_toDecimal v) (by decide) e he
  rw [List.append_nil, digitVals_length, ← digits10_eq] at h
  exact h

/-- **C17 (`TryFrom<int>`).** An `Err(e)` names the type's capacity in bytes and a needed width that is strictly larger, a
    multiple of 4 bytes and sufficient for the decimal digits of `v` at exponent 0; and the refusal is justified: the
    smallest sufficient width exceeds the capacity (C04/C10). (`hI`, `hv` restrict the statement to the values of the
    integer type, as the property is worded; the proof does not use them: `C17_conv_int'`.) -/
theorem C17_conv_int (T : Ty) (I : IntTy)
    (_hI : I.bits = 8 ∨ I.bits = 16 ∨ I.bits = 32 ∨ I.bits = 64 ∨ I.bits = 128) (v : Int) (_hv : I.contains v = true)
    (e : OverflowErr) (he : fromIntT T I v = some (.error e)) :
    ∃ cap n, T.capN = some cap ∧ e = .wouldOverflow (4 * cap) (4 * n) ∧ cap < n ∧
      cap < need (digits10 v.natAbs) (some 0) ∧ (Fmt.mk n).fitsB (digits10 v.natAbs) (some 0) = true :=
  (C17_conv_int' T I v e he).2

/-- **C05 (`TryFrom<int>` never panics)**: the `expect` on the parse cannot fire, and for the pairs where `TryFrom` is the
    blanket impl over `From` the conversion succeeds -/
theorem C17_conv_int_never_panics (T : Ty) (I : IntTy)
    (hI : I.bits = 8 ∨ I.bits = 16 ∨ I.bits = 32 ∨ I.bits = 64 ∨ I.bits = 128) (v : Int) (hv : I.contains v = true) :
    fromIntT T I v ≠ none := fun hnone =>
  C10.fromInt_ne_panic T I hI v hv (by rw [fromInt_of_fromIntT, hnone])

/-- **C17**: the error facts of every `from_int@t` refusal -/
theorem judgeConvErr_model (T : Ty) (I : IntTy)
    (hI : I.bits = 8 ∨ I.bits = 16 ∨ I.bits = 32 ∨ I.bits = 64 ∨ I.bits = 128) (v : Int) (hv : I.contains v = true)
    (e : OverflowErr) (he : fromIntT T I v = some (.error e)) :
    judgeConvErr T (digits10 v.natAbs) 0 (errFacts (.overflow e)) = [] := by
  obtain ⟨cap, n, hcap, rfl, hcn, _, hfit⟩ := C17_conv_int T I hI v hv e he
  exact judgeConvErr_truthful T _ 0 cap n hcap hcn hfit

theorem fromFloatT_finite (T : Ty) (B : BinFmt) (bits : Nat) (ryu : List Nat)
    (hn : B.isNan bits = false) (hi : B.isInf bits = false) :
    fromFloatT T B bits ryu = fromTextT T (T.floatInfallible B) ryu := by
  unfold fromFloatT
  simp only [hn, hi, Bool.false_eq_true, if_false]

/-- **C17 (`TryFrom<f32|f64>`)**, as `C17_conv_int`, for the written digits and `q = exponent − fraction digits`.  Of the
    formatter's contract only this is needed: the text is a finite numeral with an exponent text inside the `i32` range
    (not even that it starts with a digit or a minus sign). -/
theorem C17_conv_float (T : Ty) (B : BinFmt) (bits : Nat) (ryu : List Nat) (s : Bool) (i fr : List Nat)
    (ex : Option (Bool × List Nat)) (hn : B.isNan bits = false) (hi : B.isInf bits = false)
    (hp : Spec.parse ryu = some (.finite s i fr ex)) (hx : inI32 (expValue ex) = true)
    (e : OverflowErr) (he : fromFloatT T B bits ryu = some (.error e)) :
    ∃ cap n, T.capN = some cap ∧ e = .wouldOverflow (4 * cap) (4 * n) ∧ cap < n ∧
      cap < need (i ++ fr).length (some (expValue ex - fr.length)) ∧
      (Fmt.mk n).fitsB (i ++ fr).length (some (expValue ex - fr.length)) = true := by
  rw [fromFloatT_finite T B bits ryu hn hi] at he
  exact (fromTextT_error_truthful T _ ryu s i fr ex hp hx e he).2

/-- under the float formatter's contract of `Props/C12.lean`, which implies that the float is finite -/
theorem C17_conv_float_contract (T : Ty) (B : BinFmt) (hB : B = binary32 ∨ B = binary64) (bits : Nat) (ryu : List Nat)
    (s : Bool) (i fr : List Nat) (ex : Option (Bool × List Nat)) (hc : C12.RyuContractWide B bits ryu s i fr ex)
    (e : OverflowErr) (he : fromFloatT T B bits ryu = some (.error e)) :
    T.floatInfallible B = false ∧
    ∃ cap n, T.capN = some cap ∧ e = .wouldOverflow (4 * cap) (4 * n) ∧ cap < n ∧
      cap < need (i ++ fr).length (some (expValue ex - fr.length)) ∧
      (Fmt.mk n).fitsB (i ++ fr).length (some (expValue ex - fr.length)) = true := by
  obtain ⟨hn, hi⟩ := C12.finite_of_rounds B hB bits _ _ hc.rounds
  rw [fromFloatT_finite T B bits ryu hn hi] at he
  exact fromTextT_error_truthful T _ ryu s i fr ex hc.parses (C12.inI32_of_expo hc.expo) e he

/-- **C17**: the error facts of every `from_float@t` refusal of a finite float -/
theorem judgeConvErrFloat_model (T : Ty) (B : BinFmt) (bits : Nat) (ryu : List Nat) (s : Bool) (i fr : List Nat)
    (ex : Option (Bool × List Nat)) (hn : B.isNan bits = false) (hi : B.isInf bits = false)
    (hp : Spec.parse ryu = some (.finite s i fr ex)) (hx : inI32 (expValue ex) = true)
    (e : OverflowErr) (he : fromFloatT T B bits ryu = some (.error e)) :
    judgeConvErrFloat T ryu (errFacts (.overflow e)) = [] := by
  obtain ⟨cap, n, hcap, rfl, hcn, _, hfit⟩ := C17_conv_float T B bits ryu s i fr ex hn hi hp hx e he
  simp only [judgeConvErrFloat.eq_def, hp]
  exact judgeConvErr_truthful T _ _ cap n hcap hcn hfit

/-- **NaN and infinity: `TryFrom<f32|f64>` never answers `Err`** (nor panics), also for the fallible types -/
theorem C17_conv_float_specials (T : Ty) (B : BinFmt) (bits : Nat) (ryu : List Nat) :
    (B.isNan bits = true → fromFloatT T B bits ryu =
      some (.ok ⟨4 * C09.baseN T, Spec.encodeNan ⟨C09.baseN T⟩ (decide (bits ≥ B.signMask)) false 0⟩)) ∧
    (B.isInf bits = true → fromFloatT T B bits ryu =
      some (.ok ⟨4 * C09.baseN T, encodeInf ⟨C09.baseN T⟩ (decide (bits ≥ B.signMask))⟩)) ∧
    (B.isNan bits = true ∨ B.isInf bits = true → ∀ e, fromFloatT T B bits ryu ≠ some (.error e)) := by
  have key : ∀ b, fromFloat T B bits ryu = .ok b → fromFloatT T B bits ryu = some (.ok b) := by
    intro b hb
    rw [fromFloat_of_fromFloatT] at hb
    split at hb <;> cases hb
    assumption
  have h1 := fun h => key _ (C12.C12_nan T B bits ryu h)
  have h2 := fun h => key _ (C12.C12_inf T B bits ryu h)
  refine ⟨h1, h2, ?_⟩
  rintro (h | h) e he
  · rw [h1 h] at he; cases he
  · rw [h2 h] at he; cases he

/-- **C05 (`TryFrom<f32|f64>` never panics)** under the float formatter's contract (for `Bitstring64`, offered as
    infallible from `f32` only, with the sharpening of `C12.C12_infallible`) -/
theorem C17_conv_float_never_panics (T : Ty) (B : BinFmt) (hB : B = binary32 ∨ B = binary64) (bits : Nat)
    (ryu : List Nat) (s : Bool) (i fr : List Nat) (ex : Option (Bool × List Nat))
    (hc : C12.RyuContractWide B bits ryu s i fr ex)
    (h64 : T.floatInfallible B = true → T = .b64 → i.length + fr.length ≤ 16 ∧ -60 ≤ expValue ex ∧ expValue ex ≤ 60) :
    fromFloatT T B bits ryu ≠ none := fun hnone =>
  C12.fromFloat_ne_panic T B hB bits ryu s i fr ex hc h64 (by rw [fromFloat_of_fromFloatT, hnone])

/-- `Bitstring32::try_from(12345678u64)`: 8 digits need 64 bits -/
theorem ex_int : fromIntT .b32 ⟨false, 64⟩ 12345678 = some (.error (.wouldOverflow 4 8)) := by decide +kernel

example : ∃ cap n, Ty.b32.capN = some cap ∧ OverflowErr.wouldOverflow 4 8 = .wouldOverflow (4 * cap) (4 * n) ∧ cap < n ∧
    cap < need (digits10 (12345678 : Int).natAbs) (some 0) ∧
    (Fmt.mk n).fitsB (digits10 (12345678 : Int).natAbs) (some 0) = true :=
  C17_conv_int .b32 ⟨false, 64⟩ (by decide) 12345678 (by decide) _ ex_int
example : fromIntT .b32 ⟨false, 64⟩ 12345678 ≠ none :=
  C17_conv_int_never_panics .b32 ⟨false, 64⟩ (by decide) 12345678 (by decide)
example : judgeConvErr .b32 (digits10 (12345678 : Int).natAbs) 0 (errFacts (.overflow (.wouldOverflow 4 8))) = [] :=
  judgeConvErr_model .b32 ⟨false, 64⟩ (by decide) 12345678 (by decide) _ ex_int
/-- `i128::MIN` into `Bitstring128` (39 digits need 160 bits), and `Bitstring32::try_from(7u8)` succeeding -/
example : fromIntT .b128 ⟨true, 128⟩ (-170141183460469231731687303715884105728) = some (.error (.wouldOverflow 16 20)) := by
  decide +kernel
example : fromIntT .b32 ⟨false, 8⟩ 7 = some (.ok ⟨4, encodeFin ⟨1⟩ false 7 0⟩) := by decide +kernel

/-- `Bitstring32::try_from(1e12f32)`: the formatter writes `1000000000000.0`, 14 digits need 64 bits -/
theorem ex_float : fromFloatT .b32 binary32 0x5368D4A5 [49, 48, 48, 48, 48, 48, 48, 48, 48, 48, 48, 48, 48, 46, 48] =
    some (.error (.wouldOverflow 4 8)) := by decide +kernel

example : ∃ cap n, Ty.b32.capN = some cap ∧ OverflowErr.wouldOverflow 4 8 = .wouldOverflow (4 * cap) (4 * n) ∧ cap < n ∧
    cap < need ([1, 0, 0, 0, 0, 0, 0, 0, 0, 0, 0, 0, 0] ++ [0]).length (some (expValue none - ([0] : List Nat).length)) ∧
    (Fmt.mk n).fitsB ([1, 0, 0, 0, 0, 0, 0, 0, 0, 0, 0, 0, 0] ++ [0]).length
      (some (expValue none - ([0] : List Nat).length)) = true :=
  C17_conv_float .b32 binary32 0x5368D4A5 _ false _ _ none (by decide) (by decide) C12.ryu_f32_1e12.parses (by decide) _ ex_float
example : judgeConvErrFloat .b32 [49, 48, 48, 48, 48, 48, 48, 48, 48, 48, 48, 48, 48, 46, 48]
    (errFacts (.overflow (.wouldOverflow 4 8))) = [] :=
  judgeConvErrFloat_model .b32 binary32 0x5368D4A5 _ false _ _ none (by decide) (by decide) C12.ryu_f32_1e12.parses (by decide) _
    ex_float
example : fromFloatT .b32 binary32 0x5368D4A5 [49, 48, 48, 48, 48, 48, 48, 48, 48, 48, 48, 48, 48, 46, 48] ≠ none :=
  C17_conv_float_never_panics .b32 binary32 (Or.inl rfl) _ _ false _ _ none C12.ryu_f32_1e12.wide (fun h => nomatch h)
/-- specials: `-inf` (`f32`) into `Bitstring32` -/
example : fromFloatT .b32 binary32 0xFF800000 [] = some (.ok ⟨4, encodeInf ⟨1⟩ true⟩) :=
  (C17_conv_float_specials .b32 binary32 0xFF800000 []).2.1 (by decide)

/-- **why `inI32 (expValue ex)` is a hypothesis of the float theorems.** A (hypothetical) formatter text whose exponent
    does not fit an `i32` makes the trait impl answer the exponent overflow, which names no width: the conclusion of
    `C17_conv_float` fails, and the oracle — which expects a width overflow from a float conversion — complains. -/
example : fromFloatT .b32 binary32 0 [49, 101, 57, 57, 57, 57, 57, 57, 57, 57, 57, 57] =
    some (.error (.exponentOutOfRange 4)) := by decide +kernel
example : judgeConvErrFloat .b32 [49, 101, 57, 57, 57, 57, 57, 57, 57, 57, 57, 57]
    (errFacts (.overflow (.exponentOutOfRange 4))) ≠ [] := by decide +kernel

end Decstr.Props.C17conv

