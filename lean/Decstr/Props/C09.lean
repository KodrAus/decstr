import Decstr.Props.C01
/-!
# C09 — infinities and NaNs (sign, signaling, payload) encode canonically

What `decimal_from_parsed` produces for the two special kinds, for every type and width.  (That formatting and reparsing
reproduces sign, kind and payload is C02 + C06; see `Decstr/Props/C03.lean`.)
-/
namespace Decstr.Props.C09
open Decstr.Model Decstr.Spec Decstr.Proofs

/-- the width the special values get when no payload asks for more: the type's own, or 32 bits -/
def baseN (T : Ty) : Nat := (T.fixedN).getD 1

theorem alloc4 (T : Ty) : T.withAtLeastBytes 4 = .ok (Buf.zero (4 * baseN T)) := by
  cases T <;> rfl

theorem baseN_pos (T : Ty) : 0 < baseN T := by cases T <;> decide

theorem baseN_le_capN {T : Ty} {cap : Nat} (h : T.capN = some cap) : baseN T ≤ cap := by
  cases T <;> cases h <;> decide

/-- **C09 (infinity).** Sign bit, combination `11110`, every other bit zero, at the type's width (32 bits for the
    dynamic types). -/
theorem C09_inf (T : Ty) (neg : Bool) :
    fromParsed T (.infinity neg) = .ok ⟨4 * baseN T, encodeInf ⟨baseN T⟩ neg⟩ := by
  simp only [fromParsed, alloc4, encodeInfinity_spec _ (baseN_pos T)]

/-- **C09 (NaN without payload; an empty payload `nan()` is the same).** -/
theorem C09_nan_none (T : Ty) (tb : TextBuf) (sig neg : Bool) (payload : Option PSignificand)
    (h : payload.filter (fun s => decide (s.range.stop > s.range.start)) = none) :
    fromParsed T (.nan ⟨tb, sig, neg, payload⟩) = .ok ⟨4 * baseN T, Spec.encodeNan ⟨baseN T⟩ neg sig 0⟩ := by
  simp only [fromParsed, h, alloc4, encodeNan_nopayload _ (baseN_pos T)]

/-- **C09 (NaN with payload).** The payload digits as written are stored as an integer in the trailing significand; a payload
    of more than `p − 1` digits is rejected by the bounded types with a truthful width and widens the dynamic ones. -/
theorem C09_nan_payload (T : Ty) (tb : TextBuf) (sig neg : Bool) (s : PSignificand)
    (hr : s.range.stop > s.range.start) (hds : AsciiDigits (slice tb.ascii s.range)) (hne : slice tb.ascii s.range ≠ []) :
    match fromParsed T (.nan ⟨tb, sig, neg, some s⟩) with
    | .ok b => ∃ n, 0 < n ∧ b = ⟨4 * n, Spec.encodeNan ⟨n⟩ neg sig (valOf (slice tb.ascii s.range))⟩ ∧
        (slice tb.ascii s.range).length + 1 ≤ (Fmt.mk n).p ∧
        (match T.fixedN with
         | some w => n = w
         | none => need ((slice tb.ascii s.range).length + 1) none ≤ n ∧ n ≤ need ((slice tb.ascii s.range).length + 1) none + 1 ∧
                   (need ((slice tb.ascii s.range).length + 1) none ≤ 5 → n = need ((slice tb.ascii s.range).length + 1) none))
    | .error err => ∃ cap n, T.capN = some cap ∧ cap < need ((slice tb.ascii s.range).length + 1) none ∧
        err = .wouldOverflow (4 * cap) (4 * n) ∧ cap < n ∧ (Fmt.mk n).fitsB ((slice tb.ascii s.range).length + 1) none = true := by
  have hf : (some s).filter (fun s => decide (s.range.stop > s.range.start)) = some s := by
    simp [Option.filter, hr]
  have halloc := C07.C07_alloc T ((slice tb.ascii s.range).length + 1) (by omega) none
  simp only [fromParsed, hf]
  cases hw : T.withPrecision ((slice tb.ascii s.range).length + 1) none with
  | error err =>
    rw [hw] at halloc
    exact halloc
  | ok b0 =>
    rw [hw] at halloc
    obtain ⟨n, hb0, hn, hfit, _, hwid⟩ := halloc
    subst hb0
    have hp := (fitsB_none n _).1 hfit
    exact ⟨n, hn, encodeNan_spec n hn neg sig _ hds hne hp, hp, hwid⟩

/-- non-vacuity: the canonical pattern of `-inf` at 32 bits (README table) -/
example : (fromParsed .b32 (.infinity true)).toOption.map Buf.toBytes = some [0, 0, 0, 0xF8] := by decide +kernel

theorem fromParsed_nan_len (T : Ty) (pn : NanParser.ParsedNan) (b : Buf) (h : fromParsed T (.nan pn) = .ok b)
    (cap : Nat) (hc : T.capN = some cap) : b.len ≤ 4 * cap := by
  obtain ⟨tb, sg, neg, payload⟩ := pn
  simp only [fromParsed] at h
  split at h
  · split at h
    · cases h
    · rename_i buf hbuf
      injection h with h; subst h
      have := C07.alloc_len_cap T _ buf hbuf cap hc
      show (encodeSignificand buf _).1.len ≤ _
      rw [encodeSignificand_len]; exact this
  · split at h
    · rename_i buf hbuf
      injection h with h; subst h
      exact C07.alloc_len_cap T _ buf hbuf cap hc
    · cases h

end Decstr.Props.C09
