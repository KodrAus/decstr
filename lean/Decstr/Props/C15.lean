import Decstr.Props.C03
import Decstr.Props.C11
/-!
# C15 — all decimal types agree: one codec regardless of container or exponent type

In the model the five types differ only in capacity, in the text buffer, and in the exponent arithmetic
(`i32` with saturation vs. unbounded integers).  The codec theorems that mention a type (C01, C02, C09, C11) are stated for an
arbitrary one, those of C08 and C13 mention none; the statements below make the agreement explicit.
-/
namespace Decstr.Props.C15
open Decstr.Model Decstr.Spec Decstr.Proofs

/-- **C15 (numerals).** A finite numeral accepted by two types denotes the same sign, coefficient and exponent in each
    and has identical bytes whenever the widths coincide. -/
theorem C15_parse (T₁ T₂ : Ty) (txt : List Nat) (s : Bool) (i fr : List Nat) (ex : Option (Bool × List Nat))
    (hp : Spec.parse txt = some (.finite s i fr ex)) (b₁ b₂ : Buf)
    (h₁ : tryParseStr T₁ txt = .ok b₁) (h₂ : tryParseStr T₂ txt = .ok b₂) :
    ∃ n₁ n₂, WF b₁ n₁ ∧ WF b₂ n₂ ∧ decode ⟨n₁⟩ b₁.bits = decode ⟨n₂⟩ b₂.bits ∧ (b₁.len = b₂.len → b₁ = b₂) := by
  obtain ⟨n₁, w₁, e₁, d₁, -⟩ := C03.stored T₁ txt _ hp b₁ h₁
  obtain ⟨n₂, w₂, e₂, d₂, -⟩ := C03.stored T₂ txt _ hp b₂ h₂
  refine ⟨n₁, n₂, w₁, w₂, by rw [d₁, d₂], fun hl => ?_⟩
  obtain rfl : n₁ = n₂ := by have := w₁.len; have := w₂.len; omega
  obtain ⟨l₁, x₁⟩ := b₁
  obtain ⟨l₂, x₂⟩ := b₂
  simp only at hl e₁ e₂
  rw [hl, e₁, e₂]

/-- **C15 (bytes): formatting.** The same bytes format to text denoting the same datum in every type able to hold them. -/
theorem C15_format (T₁ T₂ : Ty) (b : Buf) (n : Nat) (h : WF b n) (h1 : C02.Holds T₁ n) (h2 : C02.Holds T₂ n) :
    ∃ num₁ num₂, parse (toText T₁ b) = some num₁ ∧ parse (toText T₂ b) = some num₂ ∧ num₁.datum = num₂.datum :=
  C02.C02_bytes_only T₁ T₂ b n h h1 h2

/-- **C15 (bytes): integer conversion** does not depend on the container or on the exponent representation. -/
theorem C15_toInt (T₁ T₂ : Ty) (b : Buf) (n : Nat) (h : WF b n) (hn : n < 2 ^ 27) (I : IntTy) (hI : I.bits ≤ 128) :
    toInt T₁ b I = toInt T₂ b I := by
  by_cases hfin : isFinite b = true
  · obtain ⟨s₁, c₁, e₁, hd₁, he₁⟩ := C11.C11_eq T₁ b n h hn I hI hfin
    obtain ⟨s₂, c₂, e₂, hd₂, he₂⟩ := C11.C11_eq T₂ b n h hn I hI hfin
    rw [hd₁] at hd₂
    cases hd₂
    rw [he₁, he₂]
  · have hnf : isFinite b = false := by simpa using hfin
    rw [C11.C11_specials T₁ b n h hn I hI hnf, C11.C11_specials T₂ b n h hn I hI hnf]

/- Classification (`isFinite … isSignNegative`) and `toFloat` take no type argument in the model, so there is nothing to
   prove about them here; that the *implementation's* five types agree on them is what the pairwise comparison of the
   C15 check establishes on every run. -/

end Decstr.Props.C15
