import Decstr.Props.C06
import Decstr.Props.C11
/-!
# C10 — integer → decimal is exact and round-trips for every integer of every type

`fromInt T I v` is the model of `T::from_<int>(v)` / `From` / `TryFrom` (`decimal_from_int`): `itoa` text (modelled as
`Spec.toDecimal`, compared on every request), `FiniteParser::parse_str`, `decimal_from_parsed`; an error is `None` for
the fallible conversions and a panic (`expect`) for the ones offered as infallible.
-/
namespace Decstr.Props.C10
open Decstr.Model Decstr.Spec Decstr.Proofs

theorem starts (v : Int) : startsWithDigitOrMinusDigit (toDecimal v) = true := by
  rw [toDecimal_eq]
  obtain ⟨ha, hne, _⟩ := natDigits_spec v.natAbs
  cases hd : natDigits v.natAbs with
  | nil => exact absurd hd hne
  | cons d ds =>
    have h48 : isDigit d = true := Grammar.isDigit_iff.2 (ha d (by rw [hd]; simp))
    by_cases hv : v < 0 <;> simp [hv, startsWithDigitOrMinusDigit, h48]

/-- **C10 (exact).** For every integer `v`: the conversion yields the canonical encoding of (sign of `v`, `|v|`, exponent 0)
    — so it decodes to exactly `v` and prints exactly like the integer — in the type's width (fixed types) or the smallest
    sufficient width (dynamic types); it fails exactly when `v` has more decimal digits than the type's capacity holds, and
    then with `None` for the fallible conversions. -/
theorem C10_from (T : Ty) (I : IntTy) (v : Int) :
    let d := (natDigits v.natAbs).length
    match fromInt T I v with
    | .ok b => ∃ n, 0 < n ∧ b = ⟨4 * n, encodeFin ⟨n⟩ (decide (v < 0)) v.natAbs 0⟩ ∧ d ≤ (Fmt.mk n).p ∧
        (match T.fixedN with
         | some w => n = w
         | none => n = need d (some 0) ∨ (need d (some 0) > 5 ∧ need d (some 0) ≤ n ∧ n ≤ need d (some 0) + 1))
    | .none => T.intInfallible I = false ∧ ∃ cap, T.capN = some cap ∧ cap < need d (some 0)
    | .panic => T.intInfallible I = true ∧ ∃ cap, T.capN = some cap ∧ cap < need d (some 0) := by
  intro d
  have hout := C06.C01_tryParseStr_finite T (toDecimal v) _ _ [] none (parse_toDecimal v)
  simp only [expValue, List.length_nil, Nat.cast_zero, Int.sub_zero, List.append_nil, Nat.add_zero, digitVals_length]
    at hout
  rw [fromInt, C06.fromText_eq T _ _ (starts v)]
  cases hr : tryParseStr T (toDecimal v) with
  | ok b =>
    rw [hr] at hout
    obtain ⟨_, n, hn, hb, hfit, _, _, _, hw⟩ := hout.ok
    have hc : ofDigits (digitVals (natDigits v.natAbs)) = v.natAbs := valOf_natDigits v.natAbs
    simp only
    exact ⟨n, hn, by rw [hb, hc], ((fitsB_iff _ _ _).1 hfit).1, C06.width_choice hw⟩
  | error e =>
    rw [hr] at hout
    rcases hout.error with ⟨hx, _⟩ | ⟨_, cap, n, rfl, hc, hlt, _⟩
    · simp [inI32] at hx
    · simp only
      by_cases hi : T.intInfallible I = true
      · rw [if_pos hi]; exact ⟨hi, cap, hc, hlt⟩
      · rw [if_neg hi]; exact ⟨by simpa using hi, cap, hc, hlt⟩

/-- the `i2d!` table: `2^16 < 10^7`, `2^32 < 10^16`, `2^64 < 10^34`, `2^128 < 10^43` -/
theorem infallible_digits (T : Ty) (I : IntTy) (hI : I.bits ≤ 128) (hinf : T.intInfallible I = true) (cap : Nat)
    (hc : T.capN = some cap) : 2 ^ I.bits < 10 ^ (Fmt.mk cap).p := by
  have hpow : ∀ B k, I.bits ≤ B → 2 ^ B < 10 ^ k → 2 ^ I.bits < 10 ^ k := fun B k h1 h2 =>
    Nat.lt_of_le_of_lt (Nat.pow_le_pow_right (by decide) h1) h2
  cases T <;> cases hc <;> simp only [Ty.intInfallible, decide_eq_true_eq] at hinf
  · exact hpow 16 _ hinf (by decide)
  · exact hpow 32 _ hinf (by decide)
  · exact hpow 64 _ hinf (by decide)
  · exact hpow 128 _ hI (by decide)

theorem C10_from_ok {T : Ty} {I : IntTy} {v : Int} {b : Buf} (h : fromInt T I v = .ok b) :
    ∃ n, b = ⟨4 * n, encodeFin ⟨n⟩ (decide (v < 0)) v.natAbs 0⟩ ∧ WF b n ∧
      (Fmt.mk n).fitsB (natDigits v.natAbs).length (some 0) = true ∧
      decode ⟨n⟩ b.bits = .fin (decide (v < 0)) v.natAbs 0 ∧
      (match T.fixedN with
       | some w => n = w
       | none => n = need (natDigits v.natAbs).length (some 0) ∨
           (need (natDigits v.natAbs).length (some 0) > 5 ∧ need (natDigits v.natAbs).length (some 0) ≤ n ∧
             n ≤ need (natDigits v.natAbs).length (some 0) + 1)) := by
  have := C10_from T I v
  simp only at this
  rw [h] at this
  obtain ⟨n, hn, rfl, hd, hw⟩ := this
  have hc : v.natAbs < 10 ^ (Fmt.mk n).p :=
    (natDigits_length_le v.natAbs (Fmt.mk n).p (by simp only [Fmt.p]; omega)).1 hd
  obtain ⟨hdec, hlt⟩ := decode_encodeFin n hn (decide (v < 0)) v.natAbs 0 hc (zero_in_range n hn)
  exact ⟨n, rfl, ⟨hn, rfl, hlt⟩, fitsB_zero n _ hn hd, hdec, hw⟩

theorem C10_from_none {T : Ty} {I : IntTy} {v : Int} (h : fromInt T I v = .none) :
    T.intInfallible I = false ∧ ∃ cap, T.capN = some cap ∧ cap < need (natDigits v.natAbs).length (some 0) := by
  have := C10_from T I v
  simp only at this
  rwa [h] at this

theorem C10_from_panic {T : Ty} {I : IntTy} {v : Int} (h : fromInt T I v = .panic) :
    T.intInfallible I = true ∧ ∃ cap, T.capN = some cap ∧ cap < need (natDigits v.natAbs).length (some 0) := by
  have := C10_from T I v
  simp only at this
  rwa [h] at this

theorem digits_le (I : IntTy) (v : Int) (hv : I.contains v = true) (k : Nat) (hb : 2 ^ I.bits < 10 ^ k) :
    (natDigits v.natAbs).length ≤ k := by
  have hk : 0 < k := Nat.pos_of_ne_zero fun h => absurd (h ▸ hb) (Nat.not_lt.2 Nat.one_le_two_pow)
  rw [natDigits_length_le _ k hk]
  exact Nat.lt_of_le_of_lt (natAbs_le_of_contains I v hv) hb

/-- the values of a target of at most 128 bits have at most 39 digits, which 160 bits hold -/
theorem need_int_le_five (I : IntTy) (hI : I.bits ≤ 128) (v : Int) (hv : I.contains v = true) :
    need (natDigits v.natAbs).length (some 0) ≤ 5 := by
  have h := digits_le I v hv 39
    (Nat.lt_of_le_of_lt (Nat.pow_le_pow_right (by decide) hI) two_pow_128_lt)
  rw [need_le_iff _ _ 5 (by decide)]
  exact fitsB_zero 5 _ (by decide) (Nat.le_trans h (by decide))

theorem fromInt_ok_of_infallible (T : Ty) (I : IntTy) (hI : I.bits ≤ 128) (hinf : T.intInfallible I = true) (v : Int)
    (hv : I.contains v = true) : ∃ b, fromInt T I v = .ok b := by
  cases hr : fromInt T I v with
  | ok b => exact ⟨b, rfl⟩
  | none => have := (C10_from_none hr).1; rw [hinf] at this; cases this
  | panic =>
    obtain ⟨_, cap, hc, hlt⟩ := C10_from_panic hr
    exfalso
    have hcp := (Ty.capN_bounds hc).1
    have hfit := fitsB_zero cap _ hcp (digits_le I v hv _ (infallible_digits T I hI hinf cap hc))
    have := (need_le_iff _ _ cap hcp).2 hfit
    omega

/-- **C10 / C05 (the infallible `From` conversions are total).** For every pair the crate offers as infallible and every
    value of the integer type, the conversion succeeds (no panic in the `expect`). -/
theorem C10_infallible (T : Ty) (I : IntTy) (hI : I.bits = 8 ∨ I.bits = 16 ∨ I.bits = 32 ∨ I.bits = 64 ∨ I.bits = 128)
    (hinf : T.intInfallible I = true) (v : Int) (hv : I.contains v = true) : ∃ b, fromInt T I v = .ok b := by
  exact fromInt_ok_of_infallible T I (by omega) hinf v hv

/-- the `expect` of a conversion offered as infallible cannot fire -/
theorem fromInt_ne_panic (T : Ty) (I : IntTy) (hI : I.bits = 8 ∨ I.bits = 16 ∨ I.bits = 32 ∨ I.bits = 64 ∨ I.bits = 128)
    (v : Int) (hv : I.contains v = true) : fromInt T I v ≠ .panic := by
  intro hp
  obtain ⟨b, hb⟩ := C10_infallible T I hI (C10_from_panic hp).1 v hv
  rw [hp] at hb; cases hb

/-- **C10 (converting back).** Converting the result back to the same integer type returns the original value. -/
theorem C10_back (T : Ty) (I : IntTy) (hI : I.bits ≤ 128) (v : Int) (hv : I.contains v = true) (b : Buf)
    (hb : fromInt T I v = .ok b) : toInt T b I = some v := by
  obtain ⟨n, -, hwf, -, hdec, hw⟩ := C10_from_ok hb
  -- the result of `from_<int>` has at most 160 + 32 bits, far below the 2^27 words C11 allows
  have hn27 : n < 2 ^ 27 := by
    have hneed := need_int_le_five I hI v hv
    cases hf : T.fixedN with
    | some w => rw [hf] at hw; have := (Ty.fixedN_facts hf).2.1; omega
    | none => rw [hf] at hw; omega
  exact C11.C11_complete T b n hwf hn27 I hI (decide (v < 0)) v.natAbs 0 hdec v
    (isValue_int v) hv (sign_ok_of_contains I v hv)

end Decstr.Props.C10
