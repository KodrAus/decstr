import Decstr.Proofs.Print
/-!
# C02 — every bit pattern formats as text denoting exactly its IEEE 754 value

`toText T b` is the model of `Display`/`Debug` (`decimal_to_fmt`).  That the text never has more written digits than
the precision is the side lemma of C03: the same width can always read it back.
-/
namespace Decstr.Props.C02
open Decstr.Model Decstr.Spec Decstr.Proofs

/-- what C02 asks of the type: a buffer of an `i32`-exponent type has at most 160 bits, so that the formatter's exponent
    arithmetic does not saturate (`Proofs.exponent_small`).  It is not the type's capacity: `Holds .b32 5` is true. -/
def Holds (T : Ty) (n : Nat) : Prop := T.expIsI32 = true → n ≤ 5

/-- a NaN payload needs one digit of headroom (the most significant digit position is not available to it) -/
def nanExtra : Numeral → Nat
  | .nan _ _ _ => 1
  | _ => 0

/-- **C02.** For every well-formed buffer of every width and every type able to hold it, the formatted text is a
numeral of the grammar whose sign, coefficient and exponent (or: infinity; or NaN kind, sign and payload) are exactly
those IEEE 754 assigns to the bit pattern; scientific notation with more than one digit has a decimal point (and the
printed exponent is adjusted accordingly, which is what denoting the same datum means); and the written digit count is
at most the precision. -/
theorem C02_format (T : Ty) (b : Buf) (n : Nat) (h : WF b n) (hT : Holds T n) :
    ∃ num, parse (toText T b) = some num ∧ num.datum = decode ⟨n⟩ b.bits ∧ layoutOk num = true ∧
           num.digitCount + nanExtra num ≤ 9 * n - 2 := by
  have hp := h.pos
  rcases h.classes with ⟨hfin, hd⟩ | ⟨hfin, hinf, hd⟩ | ⟨hfin, hinf, hq, hd⟩
  · rw [toText_finite T h hfin, hd]
    obtain ⟨num, h1, h2, h3, h4⟩ :=
      fmtFinite_good T (digitsOK h) _ (exponent_small T h hT hfin) (isSignNegative b)
    refine ⟨num, h1, h2, h3, ?_⟩
    cases num with
    | finite => exact h4
    | inf => cases h2
    | nan => cases h2
  · rw [toText_infinite T hfin hinf, hd]
    exact ⟨.inf (isSignNegative b), parse_inf _, rfl, rfl, Nat.zero_le _⟩
  · obtain ⟨hl, he, _⟩ := decodeDeclets_spec b n h
    obtain ⟨num, h1, h2, h3⟩ := fmtNan_spec n (decodeDeclets b) hl he (isQuietNan b) (isSignNegative b)
    rw [toText_nan T hfin hinf, hd]
    rw [hq, Bool.not_not] at h2
    cases num with
    | finite => cases h2
    | inf => cases h2
    | nan => exact ⟨_, h1, h2, rfl, by simp only [nanExtra]; omega⟩

/-- What the text denotes depends on the bytes only, not on which of the types able to hold them formats it: both texts
    parse, to the same datum (equality of the two texts is not stated).  `{:?}` and `{}` are one function in the model,
    both call `decimal_to_fmt`; the correspondence check compares the two on the implementation. -/
theorem C02_bytes_only (T₁ T₂ : Ty) (b : Buf) (n : Nat) (h : WF b n) (h1 : Holds T₁ n) (h2 : Holds T₂ n) :
    ∃ num₁ num₂, parse (toText T₁ b) = some num₁ ∧ parse (toText T₂ b) = some num₂ ∧ num₁.datum = num₂.datum := by
  obtain ⟨a, ha, hda, _⟩ := C02_format T₁ b n h h1
  obtain ⟨c, hc, hdc, _⟩ := C02_format T₂ b n h h2
  exact ⟨a, c, ha, hc, by rw [hda, hdc]⟩

/-- non-vacuity: a non-canonical 64-bit pattern (all-ones declets, large-digit combination) -/
example : WF ⟨8, 0x6fffffffffffffff⟩ 2 ∧ Holds .b64 2 := ⟨⟨by decide, rfl, by decide⟩, fun _ => by decide⟩

end Decstr.Props.C02
