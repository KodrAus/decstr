import Decstr.Proofs.JudgeLemmas
import Decstr.Props.C07
/-!
# C16 — byte-level API: verbatim little-endian storage, exact reversal, length checks

In the model `from_le_bytes` stores the bytes as a little-endian number and `as_le_bytes` reads them back; the
big-endian accessors are list reversal by definition.  The implementation's literal index lists (`[b[15], b[14], …]`) are
translated on every run and proved to be the descending ranges, through which reading is reversal (`C16_be_gather`).
`try_from_le_bytes` exists for `Bitstring` and `BigBitstring` only (bitstring/dynamic.rs, bitstring/arbitrary.rs; the
fixed-width types take arrays), hence the hypothesis `T = .dyn ∨ T = .big`.
-/
namespace Decstr.Props.C16
open Decstr.Model Decstr.Spec Decstr.Proofs

/-- **C16 (verbatim).** `as_le_bytes(from_le_bytes(b)) = b` for every byte string. -/
theorem C16_le_roundtrip (l : List Nat) (h : ∀ x ∈ l, x < 256) : (Buf.ofBytes l).toBytes = l := by
  simp [Buf.ofBytes, Buf.toBytes, leBytes_ofLeBytes l h]

/-- **C16 (reversal).** Reversal is an involution (a fact about lists: the model answers the big-endian requests with
    `reverse`; what the accessors do to the buffer is `C16_be_gather`). -/
theorem C16_be_inverse (l : List Nat) : l.reverse.reverse = l := List.reverse_reverse l

/-- `try_from_le_bytes` by the length of the slice: a size error unless it is a positive multiple of 4, for `Bitstring` a
    width overflow beyond 20 bytes, else the bytes, stored verbatim -/
theorem tryFromLeBytes_eq (T : Ty) (hT : T = .dyn ∨ T = .big) (l : List Nat) :
    tryFromLeBytes T l =
      if l.length = 0 ∨ l.length % 4 ≠ 0 then .error (.sizeMismatch l.length (l.length + 4 - l.length % 4))
      else if T = .dyn ∧ 20 < l.length then .error (.wouldOverflow 20 l.length)
      else .ok (Buf.ofBytes l) := by
  rcases hT with rfl | rfl
  · by_cases h20 : 20 < l.length <;> simp [tryFromLeBytes, Ty.withAtLeastBytes, Buf.zero, h20]
  · simp [tryFromLeBytes, Ty.withAtLeastBytes, Buf.zero]

/-- **C16 (verbatim).** What `try_from_le_bytes` accepts it stores as it is (all five model types: for the fixed-width
    ones this is `from_le_bytes` on an array of the right length). -/
theorem C16_try_verbatim (T : Ty) (l : List Nat) (b : Buf) (h : tryFromLeBytes T l = .ok b) : b = Buf.ofBytes l := by
  simp only [tryFromLeBytes] at h
  split at h
  · cases h
  · split at h
    · cases h
    · split at h
      · cases h
      · injection h with h; exact h.symm

theorem tryFromLeBytes_ok {T : Ty} {l : List Nat} {b : Buf} (h : tryFromLeBytes T l = .ok b) :
    T.holds l.length = true ∧ b = Buf.ofBytes l := by
  refine ⟨?_, C16_try_verbatim T l b h⟩
  simp only [tryFromLeBytes, C07.withAtLeastBytes_eq, Bool.or_eq_true, decide_eq_true_eq, bne_iff_ne] at h
  split at h
  · cases h
  · rename_i h0
    -- the buffer allocated has the slice's length, so that is the width of a fixed-width type; the allocation was
    -- granted, so it is within the capacity
    obtain ⟨n, hn⟩ : ∃ n, l.length = 4 * n := Nat.dvd_of_mod_eq_zero (Decidable.not_not.1 fun h4 => h0 (.inr h4))
    refine (holds_iff T _).2 ⟨n, Nat.pos_of_ne_zero fun hz => h0 (.inl (by rw [hn, hz])), hn, fun w hf => ?_, fun c hc => ?_⟩
    · rw [(Ty.fixedN_facts hf).2.2, hf] at h
      simp only at h
      by_cases hgt : l.length > 4 * w
      · rw [if_pos hgt] at h; cases h
      · rw [if_neg hgt] at h
        by_cases hne : (Buf.zero (4 * w)).len ≠ l.length
        · simp only [if_pos hne] at h; cases h
        · exact Nat.eq_of_mul_eq_mul_left (by decide) (hn.symm.trans (Decidable.not_not.1 hne).symm)
    · rw [hc] at h
      simp only at h
      by_cases hgt : l.length > 4 * c
      · rw [if_pos hgt] at h; cases h
      · exact Nat.le_of_mul_le_mul_left (hn ▸ Nat.le_of_not_gt hgt) (by decide)

/-- **C16 (lengths).** `try_from_le_bytes` accepts exactly the positive multiples of 4 (at most 20 bytes for
`Bitstring`). -/
theorem C16_try_accepts (T : Ty) (hT : T = .dyn ∨ T = .big) (l : List Nat) :
    (∃ b, tryFromLeBytes T l = .ok b) ↔ T.holds l.length = true := by
  refine ⟨fun ⟨_, h⟩ => (tryFromLeBytes_ok h).1, fun h => ⟨Buf.ofBytes l, ?_⟩⟩
  obtain ⟨n, hn, hl, -, hc⟩ := (holds_iff T _).1 h
  rw [tryFromLeBytes_eq T hT, if_neg (by rw [hl, Nat.mul_mod_right]; omega), if_neg]
  rintro ⟨rfl, h20⟩
  have := hc 5 rfl
  omega

/-- **C17 (length errors).** A rejected length is reported with that length and the next multiple of 4, or,
for a multiple of 4 beyond the capacity, with the capacity and the length. -/
theorem C17_len_error (T : Ty) (hT : T = .dyn ∨ T = .big) (l : List Nat) (e : OverflowErr)
    (h : tryFromLeBytes T l = .error e) :
    (l.length = 0 ∨ l.length % 4 ≠ 0) ∧ e = .sizeMismatch l.length (l.length + 4 - l.length % 4) ∨
    (T = .dyn ∧ l.length > 20 ∧ l.length % 4 = 0 ∧ e = .wouldOverflow 20 l.length) := by
  rw [tryFromLeBytes_eq T hT] at h
  by_cases h0 : l.length = 0 ∨ l.length % 4 ≠ 0
  · rw [if_pos h0] at h
    injection h with h
    exact .inl ⟨h0, h.symm⟩
  · rw [if_neg h0] at h
    by_cases h1 : T = .dyn ∧ 20 < l.length
    · rw [if_pos h1] at h
      injection h with h
      exact .inr ⟨h1.1, h1.2, Decidable.not_not.1 fun h4 => h0 (.inr h4), h.symm⟩
    · rw [if_neg h1] at h
      cases h

example : tryFromLeBytes .dyn [1, 2, 3, 4, 5] = .error (.sizeMismatch 5 8) := by rfl
example : tryFromLeBytes .dyn (List.replicate 24 7) = .error (.wouldOverflow 20 24) := by rfl

/-- reading a list through a literal index list, as the `[b[15], b[14], …]` array expressions of `to_be_bytes` /
    `from_be_bytes` do -/
def gather (idx l : List Nat) : List Nat := idx.map (fun i => l.getD i 0)

/-- **C16 (index lists).** Reading through the descending index list is the byte reversal. The literal index lists of
    the source are translated on every run (`tools/gen_be.py`) and proved equal to `(List.range N).reverse`. -/
theorem C16_be_gather (l : List Nat) : gather (List.range l.length).reverse l = l.reverse := by
  unfold gather
  apply List.ext_getElem
  · simp
  · intro i h1 h2
    simp only [List.length_map, List.length_reverse, List.length_range] at h1
    simp only [List.getElem_map, List.getElem_reverse, List.getElem_range, List.length_range]
    have : l.length - 1 - i < l.length := by omega
    simp [List.getD_eq_getElem?_getD, List.getElem?_eq_getElem this]

/-- `from_be_bytes ∘ to_be_bytes` and `to_be_bytes ∘ from_be_bytes` are the identity on arrays of the type's length. -/
theorem C16_be_gather_inverse (l : List Nat) :
    gather (List.range l.length).reverse (gather (List.range l.length).reverse l) = l := by
  have h := C16_be_gather l
  have hl : (gather (List.range l.length).reverse l).length = l.length := by simp [gather]
  have h2 := C16_be_gather (gather (List.range l.length).reverse l)
  rw [hl] at h2
  rw [h2, h, List.reverse_reverse]


end Decstr.Props.C16
