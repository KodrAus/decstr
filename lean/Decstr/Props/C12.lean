import Decstr.Props.C06
import Decstr.Props.C13
import Decstr.Props.C08
import Decstr.Proofs.Grammar
import Decstr.Proofs.SpecLemmas
import Decstr.Proofs.Print
/-!
# C12 — binary float → decimal: the formatter's shortest digits, exactly; converts back to the identical float

`fromFloat T B bits ryu` models `T::from_f32/from_f64` / `From` / `TryFrom` (`decimal_from_binary_float`): NaN and infinity
are mapped directly; a finite float is printed by `ryu::Buffer::format_finite` (an external crate: its text is the explicit
argument `ryu`, its behaviour the explicit hypothesis `RyuContractWide`), parsed by `FiniteParser::parse_str` and encoded by
`decimal_from_parsed`; an error is `None` for the fallible conversions and a panic (`expect`) for those offered as infallible.
`RyuContract` (at most 17 *written* digits) is how the property words the formatter's behaviour; `ryu_f64_positional` is a real
output of 22 written digits, which that wording leaves out, so every theorem is proved under the wide contract and the narrow
one is its instance.
-/
namespace Decstr.Props.C12
open Decstr.Model Decstr.Spec Decstr.Proofs

/-- the assumed contract of the float formatter for a finite float with bit pattern `bits`: the text is a finite numeral
    `-?D(.D)?(e-?D)?` with the float's sign, at most 17 written digits, a small exponent, and it rounds (to nearest even)
    to the float -/
structure RyuContract (B : BinFmt) (bits : Nat) (ryu : List Nat) (s : Bool) (i fr : List Nat)
    (ex : Option (Bool × List Nat)) : Prop where
  parses : Spec.parse ryu = some (.finite s i fr ex)
  starts : startsWithDigitOrMinusDigit ryu = true
  sign : s = decide (bits ≥ B.signMask)
  digits : i.length + fr.length ≤ 17
  expo : -400 ≤ expValue ex ∧ expValue ex ≤ 400
  rounds : rneDecSafe B (ofDigits (i ++ fr)) (expValue ex - fr.length) = some (bits % B.signMask)

/-- A weaker contract, which is all the proofs use.  `ryu` prints small values positionally (`1.2345678901234568e-5` is
    printed `0.000012345678901234568`: 22 *written* digits for 17 significant ones), so "at most 17 written digits" does
    not hold of every real output; "at most 34 written digits, value below `10^17`" does. -/
structure RyuContractWide (B : BinFmt) (bits : Nat) (ryu : List Nat) (s : Bool) (i fr : List Nat)
    (ex : Option (Bool × List Nat)) : Prop where
  parses : Spec.parse ryu = some (.finite s i fr ex)
  starts : startsWithDigitOrMinusDigit ryu = true
  sign : s = decide (bits ≥ B.signMask)
  written : i.length + fr.length ≤ 34
  significant : ofDigits (i ++ fr) < 10 ^ 17
  expo : -400 ≤ expValue ex ∧ expValue ex ≤ 400
  rounds : rneDecSafe B (ofDigits (i ++ fr)) (expValue ex - fr.length) = some (bits % B.signMask)

theorem RyuContract.wide {B : BinFmt} {bits : Nat} {ryu : List Nat} {s : Bool} {i fr : List Nat}
    {ex : Option (Bool × List Nat)} (h : RyuContract B bits ryu s i fr ex) : RyuContractWide B bits ryu s i fr ex := by
  refine ⟨h.parses, h.starts, h.sign, Nat.le_trans h.digits (by decide), ?_, h.expo, h.rounds⟩
  obtain ⟨h1, h2⟩ := parse_finite_digits h.parses
  exact Nat.lt_of_lt_of_le (ofDigits_lt (i ++ fr) (List.forall_mem_append.2 ⟨h1, h2⟩))
    (Nat.pow_le_pow_right (by decide) (by rw [List.length_append]; exact h.digits))

theorem finite_of_rounds (B : BinFmt) (hB : B = binary32 ∨ B = binary64) (bits c : Nat) (q : Int)
    (h : rneDecSafe B c q = some (bits % B.signMask)) : B.isNan bits = false ∧ B.isInf bits = false := by
  have := rneDecSafe_lt B hB c q _ h
  simp only [BinFmt.isNan, BinFmt.isInf, decide_eq_false_iff_not, beq_eq_false_iff_ne]
  omega

theorem fromFloat_finite (T : Ty) (B : BinFmt) (bits : Nat) (ryu : List Nat)
    (hn : B.isNan bits = false) (hi : B.isInf bits = false) :
    fromFloat T B bits ryu = fromText T (T.floatInfallible B) ryu := by
  unfold fromFloat
  simp only [hn, hi, Bool.false_eq_true, if_false]

/-- **C12 (entry point).** For a finite float, `from_f32/from_f64` is the string entry point's answer on the formatter's
    text (needs only that the text starts with a digit or `-` and a digit). -/
theorem fromFloat_eq (T : Ty) (B : BinFmt) (bits : Nat) (ryu : List Nat)
    (hn : B.isNan bits = false) (hi : B.isInf bits = false) (hs : startsWithDigitOrMinusDigit ryu = true) :
    fromFloat T B bits ryu = match tryParseStr T ryu with
      | .ok b => .ok b
      | .error (.parse _) => .panic
      | .error (.overflow _) => if T.floatInfallible B then .panic else .none :=
  (fromFloat_finite T B bits ryu hn hi).trans (C06.fromText_eq T _ ryu hs)

/-- the shape of the answer to a finite float (the statement of `C12_finite`) -/
def FloatOutcome (T : Ty) (B : BinFmt) (s : Bool) (c d : Nat) (q : Int) (r : Res) : Prop :=
  match r with
  | .ok b => ∃ n, 0 < n ∧ b = ⟨4 * n, encodeFin ⟨n⟩ s c q⟩ ∧ (Fmt.mk n).fitsB d (some q) = true ∧
      (match T.fixedN with
       | some w => n = w
       | none => n = need d (some q) ∨ (need d (some q) > 5 ∧ need d (some q) ≤ n ∧ n ≤ need d (some q) + 1))
  | .none => T.floatInfallible B = false ∧ ∃ cap, T.capN = some cap ∧ cap < need d (some q)
  | .panic => T.floatInfallible B = true ∧ ∃ cap, T.capN = some cap ∧ cap < need d (some q)

/-- **C12 (exact), general form.** Needs only: the float is finite, the text is a finite numeral that starts with a digit
    or `-` and a digit, and its exponent fits an `i32`. -/
theorem C12_finite_of (T : Ty) (B : BinFmt) (bits : Nat) (ryu : List Nat) (s : Bool) (i fr : List Nat)
    (ex : Option (Bool × List Nat)) (hn : B.isNan bits = false) (hi : B.isInf bits = false)
    (hp : Spec.parse ryu = some (.finite s i fr ex)) (hs : startsWithDigitOrMinusDigit ryu = true)
    (hx : inI32 (expValue ex) = true) :
    FloatOutcome T B s (ofDigits (i ++ fr)) (i.length + fr.length) (expValue ex - fr.length) (fromFloat T B bits ryu) := by
  have hout := C06.C01_tryParseStr_finite T ryu s i fr ex hp
  rw [fromFloat_eq T B bits ryu hn hi hs]
  cases hr : tryParseStr T ryu with
  | ok b =>
    rw [hr] at hout
    obtain ⟨_, n, hn, hb, hfit, _, _, _, hw⟩ := hout.ok
    exact ⟨n, hn, hb, hfit, C06.width_choice hw⟩
  | error e =>
    rw [hr] at hout
    rcases hout.error with ⟨h, -⟩ | ⟨-, cap, n, rfl, hc, hlt, -⟩
    · simp [hx] at h
    · simp only
      by_cases hinf : T.floatInfallible B = true
      · rw [if_pos hinf]; exact ⟨hinf, cap, hc, hlt⟩
      · rw [if_neg hinf]; exact ⟨by simpa using hinf, cap, hc, hlt⟩

theorem inI32_of_expo {x : Int} (h : -400 ≤ x ∧ x ≤ 400) : inI32 x = true := by
  simp only [inI32, Bool.and_eq_true, decide_eq_true_eq]; omega

/-- **C12 (exact).** Under the formatter's contract, with `c` the written digits read as an integer, `d` their number
    and `q` the written exponent minus the number of fraction digits: the conversion yields the canonical encoding of
    (sign of the float, `c`, `q`) — the decimal's exact value is the formatter's shortest digits; `-0.0` gives `-0.0`
    with digits `00` and exponent −1 — in the type's width (fixed types) or the smallest sufficient width (dynamic
    types); it fails exactly when those digits and exponent do not fit the type's capacity, with `None` for the fallible
    conversions. -/
theorem C12_finite_wide (T : Ty) (B : BinFmt) (hB : B = binary32 ∨ B = binary64) (bits : Nat) (ryu : List Nat) (s : Bool)
    (i fr : List Nat) (ex : Option (Bool × List Nat)) (h : RyuContractWide B bits ryu s i fr ex) :
    FloatOutcome T B s (ofDigits (i ++ fr)) (i.length + fr.length) (expValue ex - fr.length) (fromFloat T B bits ryu) := by
  obtain ⟨hn, hi⟩ := finite_of_rounds B hB bits _ _ h.rounds
  exact C12_finite_of T B bits ryu s i fr ex hn hi h.parses h.starts (inI32_of_expo h.expo)

/-- `C12_finite_wide` under the narrow contract, the outcome written out -/
theorem C12_finite (T : Ty) (B : BinFmt) (hB : B = binary32 ∨ B = binary64) (bits : Nat) (ryu : List Nat) (s : Bool)
    (i fr : List Nat) (ex : Option (Bool × List Nat)) (h : RyuContract B bits ryu s i fr ex) :
    let c := ofDigits (i ++ fr)
    let d := i.length + fr.length
    let q : Int := expValue ex - fr.length
    match fromFloat T B bits ryu with
    | .ok b => ∃ n, 0 < n ∧ b = ⟨4 * n, encodeFin ⟨n⟩ s c q⟩ ∧ (Fmt.mk n).fitsB d (some q) = true ∧
        (match T.fixedN with
         | some w => n = w
         | none => n = need d (some q) ∨ (need d (some q) > 5 ∧ need d (some q) ≤ n ∧ n ≤ need d (some q) + 1))
    | .none => T.floatInfallible B = false ∧ ∃ cap, T.capN = some cap ∧ cap < need d (some q)
    | .panic => T.floatInfallible B = true ∧ ∃ cap, T.capN = some cap ∧ cap < need d (some q) :=
  C12_finite_wide T B hB bits ryu s i fr ex h.wide

theorem need_le_of {i fr : List Nat} {ex : Option (Bool × List Nat)} (n p : Nat) (lo hi : Int) (hn : 0 < n)
    (hf : (Fmt.mk n).p = p ∧ (Fmt.mk n).qmin ≤ lo - p ∧ hi ≤ (Fmt.mk n).qmax)
    (hd : i.length + fr.length ≤ p) (hx : lo ≤ expValue ex ∧ expValue ex ≤ hi) :
    need (i.length + fr.length) (some (expValue ex - fr.length)) ≤ n := by
  rw [need_le_iff _ _ n hn, fitsB_iff]
  omega

/-- the text of the wide contract always fits 128 bits -/
theorem need_le_four {i fr : List Nat} {ex : Option (Bool × List Nat)} (hd : i.length + fr.length ≤ 34)
    (hx : -400 ≤ expValue ex ∧ expValue ex ≤ 400) :
    need (i.length + fr.length) (some (expValue ex - fr.length)) ≤ 4 :=
  need_le_of 4 34 (-400) 400 (by decide) (by decide) hd hx

/-- the text of the narrow contract (at most 17 written digits) even fits 96 bits -/
theorem need_le_three {i fr : List Nat} {ex : Option (Bool × List Nat)} (hd : i.length + fr.length ≤ 17)
    (hx : -400 ≤ expValue ex ∧ expValue ex ≤ 400) :
    need (i.length + fr.length) (some (expValue ex - fr.length)) ≤ 3 :=
  need_le_of 3 25 (-400) 400 (by decide) (by decide) (by omega) hx

/-- at most 16 written digits and an exponent text within ±60 (what `ryu` prints for an `f32`: at most 15 written
    digits, exponent within ±45) fit 64 bits -/
theorem need_le_two {i fr : List Nat} {ex : Option (Bool × List Nat)} (hd : i.length + fr.length ≤ 16)
    (hx : -60 ≤ expValue ex ∧ expValue ex ≤ 60) :
    need (i.length + fr.length) (some (expValue ex - fr.length)) ≤ 2 :=
  need_le_of 2 16 (-60) 60 (by decide) (by decide) hd hx

/-- under the formatter's contract (sharpened for `Bitstring64` as in `C12_infallible_wide`) no conversion panics: the only
    `expect` that could fail is the capacity test of a pair offered as infallible, and those capacities hold the text -/
theorem fromFloat_ne_panic (T : Ty) (B : BinFmt) (hB : B = binary32 ∨ B = binary64) (bits : Nat) (ryu : List Nat)
    (s : Bool) (i fr : List Nat) (ex : Option (Bool × List Nat)) (h : RyuContractWide B bits ryu s i fr ex)
    (h64 : T.floatInfallible B = true → T = .b64 → i.length + fr.length ≤ 16 ∧ -60 ≤ expValue ex ∧ expValue ex ≤ 60) :
    fromFloat T B bits ryu ≠ .panic := by
  intro hp
  have ho := C12_finite_wide T B hB bits ryu s i fr ex h
  rw [hp] at ho
  obtain ⟨hinf, cap, hc, hlt⟩ := ho
  have h4 := need_le_four h.written h.expo
  cases T with
  | b32 => cases hinf
  | b64 =>
    have h2 := need_le_two (h64 hinf rfl).1 (h64 hinf rfl).2
    cases hc; omega
  | b128 => cases hc; omega
  | dyn => cases hc; omega
  | big => cases hc

/-- **C12 / C05 (the infallible `From` conversions are total).** For every pair the crate offers as infallible
    (`Bitstring64` from `f32`; `Bitstring128`, `Bitstring`, `BigBitstring` from `f32` and `f64`) the conversion of a finite
    float succeeds — no panic in the `expect` — under the formatter's contract.  For `Bitstring64` (offered from `f32`
    only) the contract has to be sharpened to what `ryu` prints for an `f32`: at most 16 written digits (`ryu`: ≤ 15, namely
    `0.` + five zeros + nine digits) and an exponent text within ±60 (`ryu`: within ±45); 17 written digits would not
    fit the 16-digit format.  (NaN and infinity: `C12_inf`, `C12_nan`, no hypothesis at all.) -/
theorem C12_infallible_wide (T : Ty) (B : BinFmt) (hB : B = binary32 ∨ B = binary64) (bits : Nat) (ryu : List Nat)
    (s : Bool) (i fr : List Nat) (ex : Option (Bool × List Nat)) (h : RyuContractWide B bits ryu s i fr ex)
    (hinf : T.floatInfallible B = true)
    (h64 : T = .b64 → i.length + fr.length ≤ 16 ∧ -60 ≤ expValue ex ∧ expValue ex ≤ 60) :
    ∃ b, fromFloat T B bits ryu = .ok b := by
  have ho := C12_finite_wide T B hB bits ryu s i fr ex h
  cases hr : fromFloat T B bits ryu with
  | ok b => exact ⟨b, rfl⟩
  | none => rw [hr] at ho; exact absurd (ho.1.symm.trans hinf) (by decide)
  | panic => exact absurd hr (fromFloat_ne_panic T B hB bits ryu s i fr ex h fun _ => h64)

theorem C12_infallible (T : Ty) (B : BinFmt) (hB : B = binary32 ∨ B = binary64) (bits : Nat) (ryu : List Nat)
    (s : Bool) (i fr : List Nat) (ex : Option (Bool × List Nat)) (h : RyuContract B bits ryu s i fr ex)
    (hinf : T.floatInfallible B = true)
    (h64 : T = .b64 → i.length + fr.length ≤ 16 ∧ -60 ≤ expValue ex ∧ expValue ex ≤ 60) :
    ∃ b, fromFloat T B bits ryu = .ok b :=
  C12_infallible_wide T B hB bits ryu s i fr ex h.wide hinf h64

/-- the same with the sharpening phrased on the float format, as property C12 states it; `C12_infallible_wide` is the form to use -/
theorem C12_infallible' (T : Ty) (B : BinFmt) (hB : B = binary32 ∨ B = binary64) (bits : Nat) (ryu : List Nat)
    (s : Bool) (i fr : List Nat) (ex : Option (Bool × List Nat)) (h : RyuContract B bits ryu s i fr ex)
    (hinf : T.floatInfallible B = true)
    (h32 : B = binary32 → i.length + fr.length ≤ 16 ∧ -60 ≤ expValue ex ∧ expValue ex ≤ 60) :
    ∃ b, fromFloat T B bits ryu = .ok b := by
  refine C12_infallible T B hB bits ryu s i fr ex h hinf ?_
  rintro rfl
  apply h32
  rcases hB with rfl | rfl
  · rfl
  · simp [Ty.floatInfallible, binary64] at hinf

/-- **C12 / C07 (dynamic types).** `Bitstring` and `BigBitstring` take exactly the smallest sufficient width (at most
    128 bits) and never fail. -/
theorem C12_dynamic (T : Ty) (hT : T.fixedN = none) (B : BinFmt) (hB : B = binary32 ∨ B = binary64) (bits : Nat)
    (ryu : List Nat) (s : Bool) (i fr : List Nat) (ex : Option (Bool × List Nat))
    (h : RyuContractWide B bits ryu s i fr ex) :
    fromFloat T B bits ryu =
      .ok ⟨4 * need (i.length + fr.length) (some (expValue ex - fr.length)),
        encodeFin ⟨need (i.length + fr.length) (some (expValue ex - fr.length))⟩ s (ofDigits (i ++ fr))
          (expValue ex - fr.length)⟩ ∧
      need (i.length + fr.length) (some (expValue ex - fr.length)) ≤ 4 := by
  have h4 := need_le_four h.written h.expo
  refine ⟨?_, h4⟩
  have hinf : T.floatInfallible B = true := by
    rcases T.kinds with ⟨w, -, -, hfix, -⟩ | rfl | rfl
    · rw [hfix] at hT; cases hT
    · rfl
    · rfl
  obtain ⟨b, hb⟩ := C12_infallible_wide T B hB bits ryu s i fr ex h hinf (by rintro rfl; cases hT)
  have ho := C12_finite_wide T B hB bits ryu s i fr ex h
  rw [hb] at ho ⊢
  obtain ⟨n, _, hbb, _, hw⟩ := ho
  rw [hT] at hw
  have hn : n = need (i.length + fr.length) (some (expValue ex - fr.length)) := by
    rcases hw with hw | ⟨hw, _, _⟩
    · exact hw
    · omega
  rw [hbb, hn]

theorem not_nan_of_inf (B : BinFmt) (bits : Nat) (h : B.isInf bits = true) : B.isNan bits = false := by
  simp only [BinFmt.isInf, beq_iff_eq] at h
  simp only [BinFmt.isNan, decide_eq_false_iff_not]
  omega

/-- **C12 (infinity).** For every type — also the fallible ones: the four-byte allocation cannot fail — an infinite
    float gives the canonical infinity of the same sign at the type's width (32 bits for the dynamic types). -/
theorem C12_inf (T : Ty) (B : BinFmt) (bits : Nat) (ryu : List Nat) (h : B.isInf bits = true) :
    fromFloat T B bits ryu = .ok ⟨4 * C09.baseN T, encodeInf ⟨C09.baseN T⟩ (decide (bits ≥ B.signMask))⟩ := by
  unfold fromFloat
  simp only [not_nan_of_inf B bits h, h, Bool.false_eq_true, if_false, if_true, C09.C09_inf]

/-- **C12 (NaN).** A NaN float gives the canonical quiet NaN without payload, with the float's sign, for every type. -/
theorem C12_nan (T : Ty) (B : BinFmt) (bits : Nat) (ryu : List Nat) (h : B.isNan bits = true) :
    fromFloat T B bits ryu =
      .ok ⟨4 * C09.baseN T, Spec.encodeNan ⟨C09.baseN T⟩ (decide (bits ≥ B.signMask)) false 0⟩ := by
  unfold fromFloat
  simp only [h, if_true, C09.C09_nan_none T _ false _ none rfl]

/-- **C12 (specials)**, both statements together -/
theorem C12_specials (T : Ty) (B : BinFmt) (bits : Nat) (ryu : List Nat) :
    (B.isInf bits = true → fromFloat T B bits ryu =
      .ok ⟨4 * C09.baseN T, encodeInf ⟨C09.baseN T⟩ (decide (bits ≥ B.signMask))⟩) ∧
    (B.isNan bits = true → fromFloat T B bits ryu =
      .ok ⟨4 * C09.baseN T, Spec.encodeNan ⟨C09.baseN T⟩ (decide (bits ≥ B.signMask)) false 0⟩) :=
  ⟨C12_inf T B bits ryu, C12_nan T B bits ryu⟩

/-- **C12 (exact value).** The result denotes exactly (sign of the float, the formatter's digits, its exponent): no digit
    is dropped, added or rounded, trailing zeros the formatter wrote (`1000000000000.0`) are kept. -/
theorem C12_value (T : Ty) (B : BinFmt) (hB : B = binary32 ∨ B = binary64) (bits : Nat)
    (ryu : List Nat) (s : Bool) (i fr : List Nat) (ex : Option (Bool × List Nat))
    (h : RyuContractWide B bits ryu s i fr ex) (b : Buf) (hb : fromFloat T B bits ryu = .ok b) :
    ∃ n, WF b n ∧ decode ⟨n⟩ b.bits = .fin (decide (bits ≥ B.signMask)) (ofDigits (i ++ fr)) (expValue ex - fr.length) := by
  obtain ⟨hn, hi⟩ := finite_of_rounds B hB bits _ _ h.rounds
  have hout := C06.C01_tryParseStr_finite T ryu s i fr ex h.parses
  rw [C06.fromText_ok h.starts ((fromFloat_finite T B bits ryu hn hi).symm.trans hb)] at hout
  obtain ⟨n, -, hwf, -, -, -, hdec⟩ := hout.ok_decode
  exact ⟨n, hwf, h.sign ▸ hdec⟩

/-- **C12 (converting back).** Under the formatter's contract, converting the result back to the same float type
    returns the identical bits (for every type and every width the result may have). -/
theorem C12_back_wide (T : Ty) (B : BinFmt) (hB : B = binary32 ∨ B = binary64) (bits : Nat) (hbits : bits < 2 ^ B.width)
    (ryu : List Nat) (s : Bool) (i fr : List Nat) (ex : Option (Bool × List Nat))
    (h : RyuContractWide B bits ryu s i fr ex) (b : Buf) (hb : fromFloat T B bits ryu = .ok b) :
    toFloat b B = some bits := by
  obtain ⟨n, hwf, hdec⟩ := C12_value T B hB bits ryu s i fr ex h b hb
  obtain ⟨ds, ha, hv, ht⟩ := C13.toFloat_of_decode hwf B hdec
  rw [ht]
  apply toFloatFinite_back B hB bits hbits ds ha
  · -- the stripped digits are the decimal digits of the value, which is below `10^17`
    rw [stripped_eq_sigStr ha, sigStr, hv]
    split
    · exact Nat.zero_le _
    · exact (natDigits_length_le _ 17 (by decide)).2 h.significant
  · have := h.expo
    have := h.written
    omega
  · rw [hv]; exact h.rounds

theorem C12_back (T : Ty) (B : BinFmt) (hB : B = binary32 ∨ B = binary64) (bits : Nat) (hbits : bits < 2 ^ B.width)
    (ryu : List Nat) (s : Bool) (i fr : List Nat) (ex : Option (Bool × List Nat))
    (h : RyuContract B bits ryu s i fr ex) (b : Buf) (hb : fromFloat T B bits ryu = .ok b) :
    toFloat b B = some bits :=
  C12_back_wide T B hB bits hbits ryu s i fr ex h.wide b hb

/-- **C12 (converting back, infinity).** The encoded infinity converts back to the identical infinite float. -/
theorem C12_back_inf (T : Ty) (B : BinFmt) (hB : B = binary32 ∨ B = binary64) (bits : Nat) (hbits : bits < 2 ^ B.width)
    (ryu : List Nat) (hinf : B.isInf bits = true) (b : Buf) (hb : fromFloat T B bits ryu = .ok b) :
    toFloat b B = some bits := by
  rw [C12_inf T B bits ryu hinf] at hb
  obtain rfl := Res.ok.inj hb
  have hn := C09.baseN_pos T
  obtain ⟨h3, h1, h2, -⟩ := C08.classes_of_decode _ _ (WF.encodeInf hn _) (decode_encodeInf _ hn _).1
  have hm : bits % B.signMask = B.infBits := by simpa [BinFmt.isInf] using hinf
  rw [toFloat_infinite _ B h1 h2, h3, ← hm]
  exact congrArg some (sgnBits_add_mod_self B (bounds_of_std hB).2.2 bits hbits)

/-- **C12 (converting back, NaN).** The encoded NaN converts back to the quiet NaN without payload of the same sign
    (the payload and the signaling bit of the original NaN are not carried over: the decimal NaN has none). -/
theorem C12_back_nan (T : Ty) (B : BinFmt) (bits : Nat)
    (ryu : List Nat) (hnan : B.isNan bits = true) (b : Buf) (hb : fromFloat T B bits ryu = .ok b) :
    toFloat b B = some (sgnBits B (decide (bits ≥ B.signMask)) + quietNanBits B) := by
  rw [C12_nan T B bits ryu hnan] at hb
  obtain rfl := Res.ok.inj hb
  have hn := C09.baseN_pos T
  have hwf := WF.encodeNan hn (decide (bits ≥ B.signMask)) false (payload := 0) (Nat.pow_pos (by decide))
  have hdec := (decode_encodeNan _ hn (decide (bits ≥ B.signMask)) false 0 (Nat.pow_pos (by decide))).1
  obtain ⟨h3, h1, h2, h4⟩ := C08.classes_of_decode _ _ hwf hdec
  have h3 : isSignNegative _ = decide (bits ≥ B.signMask) := h3
  have hpl := (decode_nan _ _ hwf h4).symm.trans hdec
  have hpl := (Datum.nan.inj hpl).2.2
  rw [toFloat_nan _ B h1 h2, h3, toFloatNan_eq,
    intFromAscii_eq ⟨true, B.width⟩ false _ (by simp), hpl]
  have h0 : IntTy.contains ⟨true, B.width⟩ (sgnVal false 0) = true := by
    simp only [sgnVal]
    exact contains_zero _
  have h00 : sgnVal false 0 = 0 := by simp [sgnVal]
  rw [h0, h00]
  simp [nanMagnitude]

/-! ## non-vacuity: instances of the contract, and of every main theorem on them -/

/-- the `f64` `1.5` (`0x3FF8000000000000`), printed `1.5` -/
theorem ryu_f64_1_5 : RyuContract binary64 0x3FF8000000000000 [49, 46, 53] false [1] [5] none :=
  { parses := by decide +kernel, starts := by decide, sign := by decide, digits := by decide, expo := by decide,
    rounds := by decide +kernel }

/-- the `f32` `1e12` (`0x5368D4A5`), printed `1000000000000.0`: 14 written digits -/
theorem ryu_f32_1e12 : RyuContract binary32 0x5368D4A5 [49, 48, 48, 48, 48, 48, 48, 48, 48, 48, 48, 48, 48, 46, 48] false
    [1, 0, 0, 0, 0, 0, 0, 0, 0, 0, 0, 0, 0] [0] none :=
  { parses := by decide +kernel, starts := by decide, sign := by decide, digits := by decide, expo := by decide,
    rounds := by decide +kernel }

/-- the `f64` `-0.0`, printed `-0.0`: sign kept, digits `00`, exponent −1 -/
theorem ryu_f64_neg_zero : RyuContract binary64 0x8000000000000000 [45, 48, 46, 48] true [0] [0] none :=
  { parses := by decide +kernel, starts := by decide, sign := by decide, digits := by decide, expo := by decide,
    rounds := by decide +kernel }

/-- the `f64` `-2.5e-7` (`0xBE90C6F7A0B5ED8D`), printed `-2.5e-7`: sign, fraction and negative exponent -/
theorem ryu_f64_sci : RyuContract binary64 0xBE90C6F7A0B5ED8D [45, 50, 46, 53, 101, 45, 55] true [2] [5] (some (true, [7])) :=
  { parses := by decide +kernel, starts := by decide, sign := by decide, digits := by decide, expo := by decide,
    rounds := by decide +kernel }

/-- the `f64` `1.2345678901234568e-5` (`0x3EE9E409302678BA`), printed `0.000012345678901234568`: 22 written digits, so the
    contract as stated does not cover it, the wide one does -/
theorem ryu_f64_positional : RyuContractWide binary64 0x3EE9E409302678BA
    [48, 46, 48, 48, 48, 48, 49, 50, 51, 52, 53, 54, 55, 56, 57, 48, 49, 50, 51, 52, 53, 54, 56] false
    [0] [0, 0, 0, 0, 1, 2, 3, 4, 5, 6, 7, 8, 9, 0, 1, 2, 3, 4, 5, 6, 8] none :=
  { parses := by decide +kernel, starts := by decide, sign := by decide, written := by decide,
    significant := by decide +kernel, expo := by decide, rounds := by decide +kernel }

/-- `C12_finite` on `1.5f64 → Bitstring64` -/
example : fromFloat .b64 binary64 0x3FF8000000000000 [49, 46, 53] = .ok ⟨8, encodeFin ⟨2⟩ false 15 (-1)⟩ := by
  decide +kernel
example : FloatOutcome .b64 binary64 false 15 2 (-1) (.ok ⟨8, encodeFin ⟨2⟩ false 15 (-1)⟩) := by
  have h := C12_finite_wide .b64 binary64 (Or.inr rfl) _ _ _ _ _ _ ryu_f64_1_5.wide
  generalize hr : fromFloat _ _ _ _ = r at h
  obtain rfl : r = .ok ⟨8, encodeFin ⟨2⟩ false 15 (-1)⟩ := hr.symm.trans (by decide +kernel)
  exact h
/-- … and on `1e12f32 → Bitstring32`, where 14 written digits do not fit: `None` -/
example : FloatOutcome .b32 binary32 false 10000000000000 14 (-1) .none := by
  have h := C12_finite_wide .b32 binary32 (Or.inl rfl) 0x5368D4A5 [49, 48, 48, 48, 48, 48, 48, 48, 48, 48, 48, 48, 48, 46, 48] false
    [1, 0, 0, 0, 0, 0, 0, 0, 0, 0, 0, 0, 0] [0] none ryu_f32_1e12.wide
  rw [show fromFloat .b32 binary32 0x5368D4A5 [49, 48, 48, 48, 48, 48, 48, 48, 48, 48, 48, 48, 48, 46, 48] = .none by
    decide +kernel] at h
  exact h
/-- `C12_infallible` on `Bitstring64::from(1e12f32)` (14 ≤ 16 digits, no exponent) and `Bitstring128::from(-2.5e-7f64)` -/
example : ∃ b, fromFloat .b64 binary32 0x5368D4A5 [49, 48, 48, 48, 48, 48, 48, 48, 48, 48, 48, 48, 48, 46, 48] = .ok b :=
  C12_infallible .b64 binary32 (Or.inl rfl) _ _ _ _ _ _ ryu_f32_1e12 rfl (fun _ => by decide)
example : ∃ b, fromFloat .b128 binary64 0xBE90C6F7A0B5ED8D [45, 50, 46, 53, 101, 45, 55] = .ok b :=
  C12_infallible .b128 binary64 (Or.inr rfl) _ _ _ _ _ _ ryu_f64_sci rfl (fun h => by cases h)
/-- `C12_dynamic` on the 22-digit text: `Bitstring` takes 96 bits -/
example : fromFloat .dyn binary64 0x3EE9E409302678BA
    [48, 46, 48, 48, 48, 48, 49, 50, 51, 52, 53, 54, 55, 56, 57, 48, 49, 50, 51, 52, 53, 54, 56] =
    .ok ⟨12, encodeFin ⟨3⟩ false 12345678901234568 (-21)⟩ :=
  (C12_dynamic .dyn rfl binary64 (Or.inr rfl) _ _ _ _ _ _ ryu_f64_positional).1.trans (by decide +kernel)
/-- `C12_back` on these -/
example (b : Buf) (hb : fromFloat .b128 binary64 0xBE90C6F7A0B5ED8D [45, 50, 46, 53, 101, 45, 55] = .ok b) :
    toFloat b binary64 = some 0xBE90C6F7A0B5ED8D :=
  C12_back .b128 binary64 (Or.inr rfl) _ (by decide) _ _ _ _ _ ryu_f64_sci b hb
example (b : Buf) (hb : fromFloat .big binary64 0x3EE9E409302678BA
    [48, 46, 48, 48, 48, 48, 49, 50, 51, 52, 53, 54, 55, 56, 57, 48, 49, 50, 51, 52, 53, 54, 56] = .ok b) :
    toFloat b binary64 = some 0x3EE9E409302678BA :=
  C12_back_wide .big binary64 (Or.inr rfl) _ (by decide) _ _ _ _ _ ryu_f64_positional b hb
example : (match fromFloat .b64 binary64 0x8000000000000000 [45, 48, 46, 48] with
    | .ok b => toFloat b binary64 | _ => none) = some 0x8000000000000000 := by decide +kernel
/-- specials: `-inf` (`f32`) into `Bitstring32` (a fallible type), a signaling NaN with payload (`f64`) into `Bitstring` -/
example : fromFloat .b32 binary32 0xFF800000 [] = .ok ⟨4, encodeInf ⟨1⟩ true⟩ :=
  C12_inf .b32 binary32 0xFF800000 [] (by decide)
example : fromFloat .dyn binary64 0x7FF0000000000123 [] = .ok ⟨4, Spec.encodeNan ⟨1⟩ false false 0⟩ :=
  C12_nan .dyn binary64 0x7FF0000000000123 [] (by decide)
example (b : Buf) (hb : fromFloat .b32 binary32 0xFF800000 [] = .ok b) : toFloat b binary32 = some 0xFF800000 :=
  C12_back_inf .b32 binary32 (Or.inl rfl) 0xFF800000 (by decide) [] (by decide) b hb

end Decstr.Props.C12

#print axioms Decstr.Props.C12.fromFloat_eq
#print axioms Decstr.Props.C12.C12_finite_of
#print axioms Decstr.Props.C12.C12_finite_wide
#print axioms Decstr.Props.C12.C12_finite
#print axioms Decstr.Props.C12.C12_infallible_wide
#print axioms Decstr.Props.C12.C12_infallible
#print axioms Decstr.Props.C12.C12_infallible'
#print axioms Decstr.Props.C12.C12_dynamic
#print axioms Decstr.Props.C12.C12_inf
#print axioms Decstr.Props.C12.C12_nan
#print axioms Decstr.Props.C12.C12_specials
#print axioms Decstr.Props.C12.C12_back_wide
#print axioms Decstr.Props.C12.C12_back
#print axioms Decstr.Props.C12.C12_value
#print axioms Decstr.Props.C12.C12_back_inf
#print axioms Decstr.Props.C12.C12_back_nan
