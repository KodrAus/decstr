import Decstr.Props.C10
import Decstr.Proofs.Print
/-!
# C10 (print) — a decimal made from an integer prints exactly like the integer

`C10_from` (in `Props/C10`) says that `from_<int>(v)` is the canonical encoding of (sign of `v`, `|v|`, exponent 0);
`C02_format` says that the text of any bit pattern *denotes* its datum.  This file gives the exact text, `toDecimal v`
(the model of `itoa`).
-/
namespace Decstr.Props.C10
open Decstr.Model Decstr.Spec Decstr.Proofs

/-- **The text of an integer-valued decimal.** For every width `32n` (`n ≥ 1`), sign `s` and coefficient `c < 10^p(n)`:
    the canonical encoding of `(s, c, 0)` is displayed — by every type — as the sign (`-` or nothing) followed by the
    decimal digits of `c`; `natDigits 0 = "0"`, so negative zero prints `-0`. -/
theorem toText_integer (T : Ty) (n : Nat) (hn : 0 < n) (s : Bool) (c : Nat) (hc : c < 10 ^ (Fmt.mk n).p) :
    toText T ⟨4 * n, encodeFin ⟨n⟩ s c 0⟩ = signText s ++ natDigits c := by
  obtain ⟨hdec, hlt⟩ := decode_encodeFin n hn s c 0 hc (zero_in_range n hn)
  have hwf : WF ⟨4 * n, encodeFin ⟨n⟩ s c 0⟩ n := ⟨hn, rfl, hlt⟩
  exact toText_of_decode_int T hwf hdec

/-- `C10_print` without the range hypotheses: `fromInt … = .ok b` already bounds the digits -/
theorem C10_print' (T : Ty) (I : IntTy) (v : Int) (b : Buf) (hb : fromInt T I v = .ok b) : toText T b = toDecimal v := by
  obtain ⟨n, -, hwf, -, hdec, -⟩ := C10_from_ok hb
  rw [toText_of_decode_int T hwf hdec, toDecimal_signText]

set_option linter.unusedVariables false in
/-- **C10 (prints exactly like the integer).** The `Display` text of `from_<int>(v)` is the integer's decimal text.
    (`hI`, `hv` are part of the property's statement; the proof does not need them — see `C10_print'`.) -/
theorem C10_print (T : Ty) (I : IntTy) (hI : I.bits ≤ 128) (v : Int) (hv : I.contains v = true) (b : Buf)
    (hb : fromInt T I v = .ok b) : toText T b = toDecimal v :=
  C10_print' T I v b hb

/-- with `C10_infallible`: for the conversions the crate offers as infallible, a result exists and prints like the integer -/
theorem C10_print_infallible (T : Ty) (I : IntTy) (hI : I.bits = 8 ∨ I.bits = 16 ∨ I.bits = 32 ∨ I.bits = 64 ∨ I.bits = 128)
    (hinf : T.intInfallible I = true) (v : Int) (hv : I.contains v = true) :
    ∃ b, fromInt T I v = .ok b ∧ toText T b = toDecimal v := by
  obtain ⟨b, hb⟩ := C10_infallible T I hI hinf v hv
  exact ⟨b, hb, C10_print' T I v b hb⟩

/-- decimal64, `-0`, and the largest coefficient of decimal32 -/
example : toText .b64 ⟨4 * 2, encodeFin ⟨2⟩ true 0 0⟩ = [45, 48] := by
  rw [toText_integer .b64 2 (by decide) true 0 (by decide)]; rfl
example : toText .b32 ⟨4 * 1, encodeFin ⟨1⟩ false 9999999 0⟩ = [57, 57, 57, 57, 57, 57, 57] := by
  rw [toText_integer .b32 1 (by decide) false 9999999 (by decide)]; decide +kernel

/-- `i16 → decimal32`: `-1200` satisfies every hypothesis of `C10_print` and prints as `-1200` -/
example : ∃ b, fromInt .b32 ⟨true, 16⟩ (-1200) = .ok b ∧ toText .b32 b = [45, 49, 50, 48, 48] := by
  obtain ⟨b, hb⟩ := C10_infallible .b32 ⟨true, 16⟩ (by decide) (by decide) (-1200) (by decide +kernel)
  refine ⟨b, hb, ?_⟩
  rw [C10_print .b32 ⟨true, 16⟩ (by decide) (-1200) (by decide +kernel) b hb]
  decide +kernel

end Decstr.Props.C10

#print axioms Decstr.Props.C10.toText_integer
#print axioms Decstr.Props.C10.C10_print'
#print axioms Decstr.Props.C10.C10_print
#print axioms Decstr.Props.C10.C10_print_infallible
