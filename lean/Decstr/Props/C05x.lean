import Decstr.Proofs.ExecClosure
/-!
# C05x — no public operation panics: every panic site of the codec, explicit and proved unreachable

The *checked* model (`Decstr/Model/Exec*.lean`) mirrors the Rust code function by function and returns
`.error "file:line what"` exactly where the Rust code would panic: slice/array indexing and slicing, `expect`/`unwrap`,
`unreachable!()`, and — with `checks = true`, the debug profile — `debug_assert*!`, integer overflow and over-long shifts
(with `checks = false`, the release profile, those wrap / are masked, as the hardware does).

For each public operation `op` and **both** profiles, `opC checks x = .ok (op x)`: no panic site is reached and the value
is the pure model's (`try_from_le_bytes` has no profile-dependent site; the infallible `to_f64` is `.ok` of some bits;
`from_<int>` / `from_f32/f64` are `.ok` of the pure answer unless that is `.panic`, see below).  Hypotheses are only what the type system of the crate guarantees about an argument:

* a decimal argument is a buffer of `4n` bytes (`n ≥ 1`) that the type can hold (`n ≤ 5` for the four `i32`-exponent
  types) — `[u8; N]` by construction for the fixed types, the length test of `try_from_le_bytes` for the others
  (`arg_tryFromLeBytes`);
* an integer argument is a value of its type;
* for `from_f32/from_f64` the text is what `ryu` prints (starts with a digit or `-` and a digit), and the API-level
  `expect("infallible conversion")` is the pure model's `.panic` answer, excluded by property C12 (not re-proved here);
* sizes: `usize → i32` casts are not modelled; `toTextC` needs the digit count `9n` to fit an `i32` (a buffer below ~950 MB).
-/
namespace Decstr.Props.C05x
open Decstr.Model Decstr.Model.Exec Decstr.Spec Decstr.Proofs Decstr.Proofs.Exec

/-- a byte string of `4n` bytes as an argument of type `T` -/
structure Arg (T : Ty) (n : Nat) (bytes : List Nat) : Prop where
  pos : 0 < n
  len : bytes.length = 4 * n
  byte : ∀ x ∈ bytes, x < 256
  holds : T.expIsI32 = true → n ≤ 5

theorem Arg.wf {T : Ty} {n : Nat} {bytes : List Nat} (h : Arg T n bytes) : WF (Buf.ofBytes bytes) n :=
  WF.ofBytes bytes n h.pos h.len h.byte

theorem Arg.held {T : Ty} {n : Nat} {bytes : List Nat} (h : Arg T n bytes) : Held T (Buf.ofBytes bytes) :=
  ⟨n, h.wf, h.holds⟩

/-- `T::from_le_bytes` of a fixed-width type is an `Arg` -/
theorem arg_fixed (T : Ty) (w : Nat) (hw : T.fixedN = some w) (bytes : List Nat) (hl : bytes.length = 4 * w)
    (hb : ∀ x ∈ bytes, x < 256) : Arg T w bytes := by
  obtain ⟨h0, h4, _⟩ := Ty.fixedN_facts hw
  exact ⟨h0, hl, hb, fun _ => Nat.le_succ_of_le h4⟩

/-- what `try_from_le_bytes` accepts is an `Arg` -/
theorem arg_tryFromLeBytes (T : Ty) (bytes : List Nat) (hb : ∀ x ∈ bytes, x < 256) (b : Buf)
    (h : tryFromLeBytes T bytes = .ok b) : ∃ n, Arg T n bytes ∧ b = Buf.ofBytes bytes := by
  obtain rfl := Props.C16.C16_try_verbatim T bytes b h
  obtain ⟨n, hwf, hT⟩ := tryFromLeBytes_held hb h
  exact ⟨n, ⟨hwf.pos, hwf.len, hb, hT⟩, rfl⟩

/-- **C05x.** No public operation reaches a panic site, in the debug profile (`checks = true`: `debug_assert!`s and
overflow checks on) or the release profile (`checks = false`), for every input. -/
theorem C05x_no_panic (checks : Bool) :
    -- parsing: any text, any fragments, each of the three `Display` behaviours of `Fault`
    (∀ T input, tryParseStrC T checks input = .ok (tryParseStr T input)) ∧
    (∀ T frags fault, tryParseC T checks frags fault = .ok (tryParse T frags fault)) ∧
    -- construction from bytes: any byte slice
    (∀ T bytes, tryFromLeBytesC T bytes = .ok (tryFromLeBytes T bytes)) ∧
    -- classification, formatting, conversion of any decimal argument
    (∀ T n bytes, Arg T n bytes → classifyC checks (Buf.ofBytes bytes) = .ok (classify (Buf.ofBytes bytes))) ∧
    (∀ T n bytes, Arg T n bytes → 9 * n ≤ 2147483647 →
      toTextC T checks (Buf.ofBytes bytes) = .ok (toText T (Buf.ofBytes bytes))) ∧
    (∀ T n bytes I, Arg T n bytes → toIntC T checks (Buf.ofBytes bytes) I = .ok (toInt T (Buf.ofBytes bytes) I)) ∧
    (∀ T n bytes B, Arg T n bytes → toFloatC T checks (Buf.ofBytes bytes) B = .ok (toFloat (Buf.ofBytes bytes) B)) ∧
    (∀ bytes, Arg .b32 1 bytes → ∃ bits, toFloatInfallibleC .b32 checks (Buf.ofBytes bytes) binary64 = .ok bits) ∧
    -- conversion from integers and binary floats
    (∀ T I v, (I.bits = 8 ∨ I.bits = 16 ∨ I.bits = 32 ∨ I.bits = 64 ∨ I.bits = 128) → I.contains v = true →
      fromIntC T checks I v = .ok (fromInt T I v).opt) ∧
    (∀ T B bits ryu, startsWithDigitOrMinusDigit ryu = true → fromFloat T B bits ryu ≠ .panic →
      fromFloatC T checks B bits ryu = .ok (fromFloat T B bits ryu).opt) ∧
    -- the constants
    (∀ (T : Ty) n, 0 < n → (T.expIsI32 = true → n ≤ 5) →
      ∀ neg, encodeMaxC T.expRep checks (4 * n) neg = .ok (encodeMax (4 * n) neg) ∧
             encodeMinC T.expRep checks (4 * n) neg = .ok (encodeMin (4 * n) neg)) :=
  ⟨tryParseStrC_eq, tryParseC_eq, tryFromLeBytesC_eq,
   fun _ _ _ h => (held_ops h.held).1,
   fun _ _ _ h hsz => (held_ops h.held).2.2.2 (by rw [h.wf.len]; omega),
   fun _ _ _ I h => (held_ops h.held).2.1 I,
   fun _ _ _ B h => (held_ops h.held).2.2.1 B,
   fun _ h => (toFloatInfallibleC_b32 checks h.wf).imp fun _ => And.left,
   fun _ _ _ hI hv => fromIntC_eq hI hv,
   fun _ _ _ _ hs hnp => fromFloatC_eq hs hnp,
   fun _ _ hn hT _ => ⟨encodeMaxC_eq hn (expRep_le hT), encodeMinC_eq hn (expRep_le hT)⟩⟩

/-- the binary codec: `encode_significand_trailing_digits`, `encode_combination_finite`,
    `decode_significand_trailing_declets`, `decode_combination_finite` -/
theorem C05x_codec (checks : Bool) (n : Nat) (hn : 0 < n) (b : Buf) (hl : b.len = 4 * n) :
    (∀ chunks : List (List Nat), (∀ ch ∈ chunks, ch ≠ []) → AsciiDigits chunks.flatten →
      encodeSignificandC checks b chunks = .ok (encodeSignificand b chunks.flatten)) ∧
    (∀ (r : ExpRep) neg (exp : Int) msd, (r.isI32 = true → n ≤ 5) →
      0 ≤ biasOf b.widthBits b.precision + exp → biasOf b.widthBits b.precision + exp < 3 * 2 ^ (2 * n + 4) →
      encodeCombinationFiniteC r checks b neg exp msd =
        .ok (encodeCombinationFinite b neg (biasOf b.widthBits b.precision + exp).toNat msd)) ∧
    decodeDecletsC checks b = .ok (decodeDeclets b) ∧
    (∀ r : ExpRep, (r.isI32 = true → n ≤ 5) → b.bits < 2 ^ (32 * n) →
      decodeCombinationFiniteC r checks b = .ok (unbiasedExponent b)) :=
  ⟨fun _ h1 h2 => encodeSignificandC_eq hn hl h1 h2,
   fun _ _ _ _ hr h1 h2 => encodeCombinationFiniteC_eq hn hl hr h1 h2,
   decodeDecletsC_eq hn hl,
   fun _ hr hlt => decodeCombinationFiniteC_eq ⟨hn, hl, hlt⟩ hr⟩

/-- `decimal_from_parsed` on whatever the parsers deliver -/
theorem C05x_fromParsed (checks : Bool) (T : Ty) :
    (∀ txt p, parseStr txt = .ok p → fromParsedC T checks p = .ok (fromParsed T p)) ∧
    (∀ kind frs fault p, kind ≠ .str → parseFmt kind frs fault = .ok p → fromParsedC T checks p = .ok (fromParsed T p)) :=
  ⟨fun _ _ h => fromParsedC_eq (parseStr_parsedOK h), fun _ _ _ _ hk h => fromParsedC_eq (parseFmt_parsedOK hk h)⟩

/-- **closure**: every decimal the library produces is again a well-formed buffer its type can hold, and every operation
    on such a value is panic-free — so is any sequence of public operations -/
theorem C05x_closed (checks : Bool) (T : Ty) :
    (∀ input b, tryParseStr T input = .ok b → Held T b) ∧
    (∀ frags fault b, tryParse T frags fault = .ok b → Held T b) ∧
    (∀ I v b, fromInt T I v = .ok b → Held T b) ∧
    (∀ B bits ryu b, startsWithDigitOrMinusDigit ryu = true → fromFloat T B bits ryu = .ok b → Held T b) ∧
    (∀ bytes b, (∀ x ∈ bytes, x < 256) → tryFromLeBytes T bytes = .ok b → Held T b) ∧
    (∀ b, Held T b →
      classifyC checks b = .ok (classify b) ∧ (∀ I, toIntC T checks b I = .ok (toInt T b I)) ∧
      (∀ B, toFloatC T checks b B = .ok (toFloat b B)) ∧
      (9 * b.len ≤ 8589934588 → toTextC T checks b = .ok (toText T b))) :=
  ⟨fun _ _ => tryParseStr_held, fun _ _ _ => tryParse_held, fun _ _ _ => fromInt_held,
   fun _ _ _ _ hs => fromFloat_held hs, fun _ _ hb => tryFromLeBytes_held hb, fun _ => held_ops⟩

/-! ## Non-vacuity: concrete arguments meet the hypotheses -/

/-- `Bitstring32::ONE` is an argument of `Bitstring32` and of `Bitstring` -/
example : Arg .b32 1 [1, 0, 80, 34] := ⟨by decide, rfl, by decide, by intro _; decide⟩
example : Arg .dyn 1 [1, 0, 80, 34] := ⟨by decide, rfl, by decide, by intro _; decide⟩
/-- a 256-bit pattern for `BigBitstring` -/
example : Arg .big 8 (List.replicate 32 255) := ⟨by decide, rfl, by decide, by intro h; cases h⟩
example : toTextC .b32 true (Buf.ofBytes [1, 0, 80, 34]) = .ok (toText .b32 (Buf.ofBytes [1, 0, 80, 34])) :=
  (C05x_no_panic true).2.2.2.2.1 .b32 1 _ ⟨by decide, rfl, by decide, by intro _; decide⟩ (by decide)
/-- the codec hypotheses: seven ASCII digits in two chunks into a 32-bit buffer, exponent −3 -/
example : (∀ ch ∈ [[49, 50, 51, 52], [53, 54, 55]], ch ≠ []) ∧ AsciiDigits [[49, 50, 51, 52], [53, 54, 55]].flatten ∧
    0 ≤ biasOf (Buf.zero 4).widthBits (Buf.zero 4).precision + (-3) ∧
    biasOf (Buf.zero 4).widthBits (Buf.zero 4).precision + (-3) < 3 * 2 ^ (2 * 1 + 4) := by
  refine ⟨by decide, by unfold AsciiDigits; decide, by decide, by decide⟩

/-- an integer argument: `-5 : i32` -/
example : (⟨true, 32⟩ : IntTy).bits = 32 ∧ (⟨true, 32⟩ : IntTy).contains (-5) = true := by decide
/-- a float argument: `ryu` prints `1.5e-7` for the `f32` with these bits, and the pure model does not answer `.panic` -/
example : startsWithDigitOrMinusDigit [49, 46, 53, 101, 45, 55] = true ∧
    fromFloat .b64 binary32 0x34210FB0 [49, 46, 53, 101, 45, 55] ≠ .panic := ⟨by decide, by decide +kernel⟩
/-- a `Held` value -/
example : Held .b32 (Buf.ofBytes [1, 0, 80, 34]) := ⟨1, WF.ofBytes _ 1 (by decide) rfl (by decide), fun _ => by decide⟩

/-! ## The checked model does report panics where the code has them (it is not vacuously `.ok`) -/

/-- an empty integer chunk (the text `.123`, which no public parser lets through) panics in both profiles -/
example : encodeSignificandC true (Buf.zero 4) [[], [49, 50, 51]] =
    .error "significand.rs:170 debug_assert_ne!(0, chunk.len())" := rfl
example : encodeSignificandC false (Buf.zero 4) [[], [49, 50, 51]] =
    .error "significand.rs:173 chunk[chunk.len() - 1]" := rfl
/-- an `i32` exponent in a 512-bit buffer (not a public type) overflows `i32::from_le_bytes`' array -/
example : decodeCombinationFiniteC .i32Fixed false (Buf.zero 64) = .error "num.rs:183 buf[i] = b" := rfl
/-- an empty buffer (not constructible through the API) -/
example : isFiniteC true (Buf.zero 0) = .error "combination.rs:479 buf.len() - 1" := by decide +kernel
example : isFiniteC false (Buf.zero 0) = .error "combination.rs:479 buf[buf.len() - 1]" := by decide +kernel
/-- a full one-byte array text buffer -/
example : FiniteParserC.pushSignificandDigit true (FiniteParser.begin ⟨.array 1, [45], 1⟩) 49 =
    .error "text/buf/array.rs:52 self.buf[self.len] = digit" := rfl

end Decstr.Props.C05x

#print axioms Decstr.Props.C05x.C05x_no_panic
#print axioms Decstr.Props.C05x.C05x_codec
#print axioms Decstr.Props.C05x.C05x_fromParsed
#print axioms Decstr.Props.C05x.C05x_closed
#print axioms Decstr.Props.C05x.arg_tryFromLeBytes
