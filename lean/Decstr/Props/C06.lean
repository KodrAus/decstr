import Decstr.Proofs.Parser
import Decstr.Proofs.ToInt
import Decstr.Props.C09
/-!
# C06 (parser) and the top-level statements of C01 / C04 / C09 / C17 for `try_parse_str`

`tryParseStr T txt` is the model of `T::try_parse_str` (= `FromStr` = `TryFrom<&str>`): `DecimalParser::parse_str`
followed by `decimal_from_parsed`.  Everything here holds for every byte list `txt`, every type and every width.
-/
namespace Decstr.Props.C06
open Decstr.Model Decstr.Spec Decstr.Proofs

/-- **C06 (accepts exactly the grammar).** The parser accepts a byte string iff the reference recogniser of the
    specification does (`Proofs.parse_iff_matches` relates that recogniser to the declarative grammar). -/
theorem C06_accepts_iff (txt : List Nat) : (∃ p, parseStr txt = .ok p) ↔ (Spec.parse txt).isSome :=
  parseStr_ok_iff txt

/-- **C06 (never mis-tokenised).** Every byte of an accepted string lands in the field the grammar assigns it: the
    recorded ranges, sliced out of the input, are exactly the grammar's integer / fraction / exponent / payload digits. -/
theorem C06_numeral (txt : List Nat) (p : Parsed) (h : parseStr txt = .ok p) : Spec.parse txt = some (numeralOf p) :=
  parseStr_numeral txt p h

/-- **C06 / C17 (rejections).** A rejected string gives a syntax error and nothing else: the first byte after which no
    grammatical completion exists, or unexpected end when the text is a proper prefix of a numeral. -/
theorem C06_reject (txt : List Nat) (hn : Spec.parse txt = none) :
    (∃ i c, firstBad txt = some i ∧ txt[i]? = some c ∧ parseStr txt = .error (.char c)) ∨
    (firstBad txt = none ∧ parseStr txt = .error .endOfInput) := by
  cases hfb : firstBad txt with
  | none => exact .inr ⟨rfl, (parseStr_err_end txt).2 ⟨hfb, by rw [hn]; rfl⟩⟩
  | some i =>
    have hc := List.getElem?_eq_getElem (firstBad_some hfb).1
    exact .inl ⟨i, _, rfl, hc, (parseStr_err_char txt _).2 ⟨i, hfb, hc⟩⟩

/-- **C06 (rejected strings never produce a value), at the API.** -/
theorem C06_tryParseStr_reject (T : Ty) (txt : List Nat) (hn : Spec.parse txt = none) :
    ∃ e, tryParseStr T txt = .error (.parse e) ∧ ((∃ c, e = .char c) ∨ e = .endOfInput) := by
  rcases C06_reject txt hn with ⟨i, c, _, _, h⟩ | ⟨_, h⟩
  · exact ⟨_, by simp [tryParseStr, h], Or.inl ⟨c, rfl⟩⟩
  · exact ⟨_, by simp [tryParseStr, h], Or.inr rfl⟩

/-- `fromText` (the common tail of `from_<int>` and `from_<float>`) in terms of the string entry point -/
theorem fromText_eq (T : Ty) (inf : Bool) (txt : List Nat) (hs : startsWithDigitOrMinusDigit txt = true) :
    fromText T inf txt = match tryParseStr T txt with
      | .ok b => .ok b
      | .error (.parse _) => .panic
      | .error (.overflow _) => if inf then .panic else .none := by
  unfold fromText tryParseStr
  rw [parseFiniteStr_eq_parseStr _ hs]
  cases parseStr txt with
  | error e => rfl
  | ok p => cases h : fromParsed T p <;> simp [liftOverflow, h]

theorem fromText_ok {T : Ty} {inf : Bool} {txt : List Nat} {b : Buf} (hs : startsWithDigitOrMinusDigit txt = true)
    (h : fromText T inf txt = .ok b) : tryParseStr T txt = .ok b := by
  rw [fromText_eq T inf txt hs] at h
  split at h
  · next b' hr => rw [hr, Res.ok.inj h]
  · cases h
  · split at h <;> cases h

/-- `fromParsed` on a finite parse: the exponent text is evaluated first (0 without one; beyond `i32` it is the
    exponent overflow), then the digits are encoded with it, lowered by the number of fraction digits -/
theorem fromParsed_finite (T : Ty) (tb : TextBuf) (sig : PSignificand) (exo : Option PExponent) :
    fromParsed T (.finite ⟨tb, sig, exo⟩) =
      if T.expIsI32 && !inI32 (expValue (exo.map fun e => (e.neg, digitVals (slice tb.text e.range)))) then
        .error (.exponentOutOfRange 4)
      else match sig.point with
        | some pt =>
          encodeFinite T sig.neg (slice tb.text ⟨sig.range.start, pt.start⟩ ++ slice tb.text ⟨pt.stop, sig.range.stop⟩)
            (T.lower (expValue (exo.map fun e => (e.neg, digitVals (slice tb.text e.range))))
              (slice tb.text ⟨pt.stop, sig.range.stop⟩).length)
        | none => encodeFinite T sig.neg (slice tb.text sig.range)
            (expValue (exo.map fun e => (e.neg, digitVals (slice tb.text e.range)))) := by
  cases exo with
  | none => rw [Option.map_none, if_neg (by cases T.expIsI32 <;> decide)]; rfl
  | some e =>
    simp only [fromParsed, TextBuf.ascii, exponentFromAscii_spec, Option.map_some]
    by_cases hx : (T.expIsI32 && !inI32 (expValue (some (e.neg, digitVals (slice tb.text e.range))))) = true
    · rw [if_pos hx, if_pos hx]
    · rw [if_neg hx, if_neg hx]; rfl

/-- what the properties say about the answer to a grammatical finite numeral with written sign `s`, coefficient `c`
    (the `d` written digits read as an integer), written exponent `x` and integer-coefficient exponent `q` -/
def FiniteOutcome (T : Ty) (s : Bool) (c d : Nat) (x q : Int) (r : Except Err Buf) : Prop :=
  if T.expIsI32 && !inI32 x then
    -- C17: an exponent text beyond the 32-bit range is an exponent overflow without a width
    r = .error (.overflow (.exponentOutOfRange 4))
  else match r with
    | .ok b => ∃ n, 0 < n ∧ b = ⟨4 * n, encodeFin ⟨n⟩ s c q⟩ ∧ (Fmt.mk n).fitsB d (some q) = true ∧ b.bits < 2 ^ (32 * n) ∧
        c < 10 ^ (Fmt.mk n).p ∧ (∀ cap, T.capN = some cap → n ≤ cap) ∧
        (match T.fixedN with
         | some w => n = w
         | none => need d (some q) ≤ n ∧ n ≤ need d (some q) + 1 ∧ (need d (some q) ≤ 5 → n = need d (some q)))
    | .error (.overflow (.wouldOverflow mx rq)) => ∃ cap n, T.capN = some cap ∧ cap < need d (some q) ∧
        mx = 4 * cap ∧ rq = 4 * n ∧ cap < n ∧ (Fmt.mk n).fitsB d (some q) = true
    | .error _ => False

theorem digitVals_append (a b : List Nat) : digitVals (a ++ b) = digitVals a ++ digitVals b :=
  Proofs.digitVals_append a b

theorem FiniteOutcome.ok {T : Ty} {s : Bool} {c d : Nat} {x q : Int} {b : Buf} (h : FiniteOutcome T s c d x q (.ok b)) :
    (T.expIsI32 && !inI32 x) = false ∧
    ∃ n, 0 < n ∧ b = ⟨4 * n, encodeFin ⟨n⟩ s c q⟩ ∧ (Fmt.mk n).fitsB d (some q) = true ∧ b.bits < 2 ^ (32 * n) ∧
      c < 10 ^ (Fmt.mk n).p ∧ (∀ cap, T.capN = some cap → n ≤ cap) ∧
      (match T.fixedN with
       | some w => n = w
       | none => need d (some q) ≤ n ∧ n ≤ need d (some q) + 1 ∧ (need d (some q) ≤ 5 → n = need d (some q))) := by
  unfold FiniteOutcome at h
  cases hx : (T.expIsI32 && !inI32 x)
  · rw [hx] at h; exact ⟨rfl, h⟩
  · rw [hx] at h; cases h

/-- an accepted finite numeral as the other property files use it: the canonical pattern of `(s, c, q)` in a well-formed
    buffer of a width the type can hold, which decodes to that triple -/
theorem FiniteOutcome.ok_decode {T : Ty} {s : Bool} {c d : Nat} {x q : Int} {b : Buf}
    (h : FiniteOutcome T s c d x q (.ok b)) :
    ∃ n, b = ⟨4 * n, encodeFin ⟨n⟩ s c q⟩ ∧ WF b n ∧ (∀ cap, T.capN = some cap → n ≤ cap) ∧ (T.expIsI32 = true → n ≤ 5) ∧
      (Fmt.mk n).fitsB d (some q) = true ∧ decode ⟨n⟩ b.bits = .fin s c q := by
  obtain ⟨-, n, hn, hb, hfit, hlt, hc, hcap, -⟩ := h.ok
  refine ⟨n, hb, ⟨hn, by rw [hb], hlt⟩, hcap, Ty.le_five_of_capN hcap, hfit, ?_⟩
  rw [hb]
  exact (decode_encodeFin n hn s c q hc ((fitsB_iff _ _ _).1 hfit).2).1

theorem FiniteOutcome.error {T : Ty} {s : Bool} {c d : Nat} {x q : Int} {e : Err}
    (h : FiniteOutcome T s c d x q (.error e)) :
    ((T.expIsI32 && !inI32 x) = true ∧ e = .overflow (.exponentOutOfRange 4)) ∨
    ((T.expIsI32 && !inI32 x) = false ∧ ∃ cap n, e = .overflow (.wouldOverflow (4 * cap) (4 * n)) ∧ T.capN = some cap ∧
      cap < need d (some q) ∧ cap < n ∧ (Fmt.mk n).fitsB d (some q) = true) := by
  unfold FiniteOutcome at h
  cases hx : (T.expIsI32 && !inI32 x)
  · rw [hx] at h
    match e, h with
    | .overflow (.wouldOverflow _ _), ⟨cap, n, hc, hlt, rfl, rfl, hcn, hf⟩ => exact .inr ⟨rfl, cap, n, rfl, hc, hlt, hcn, hf⟩
  · rw [hx] at h; cases h; exact .inl ⟨rfl, rfl⟩

/-- the width clause of `FiniteOutcome` in the form the conversion theorems state it: the smallest sufficient width, or
    (only above 160 bits, where the computed width may overshoot) at most one more -/
theorem width_choice {T : Ty} {n nn : Nat}
    (hw : match T.fixedN with
      | some w => n = w
      | none => nn ≤ n ∧ n ≤ nn + 1 ∧ (nn ≤ 5 → n = nn)) :
    match T.fixedN with
    | some w => n = w
    | none => n = nn ∨ (nn > 5 ∧ nn ≤ n ∧ n ≤ nn + 1) := by
  generalize T.fixedN = o at hw ⊢
  cases o with
  | some w => exact hw
  | none =>
    obtain ⟨h1, h2, h3⟩ := hw
    by_cases h5 : nn ≤ 5
    · exact Or.inl (h3 h5)
    · exact Or.inr ⟨by omega, h1, h2⟩

theorem i32_of_cond (T : Ty) (x : Int) (hx : (T.expIsI32 && !inI32 x) = false) :
    T.expIsI32 = true → i32Min ≤ x ∧ x ≤ i32Max := by
  intro hi
  simp only [hi, Bool.true_and, Bool.not_eq_false', inI32, Bool.and_eq_true, decide_eq_true_eq] at hx
  simp only [i32Min, i32Max]; exact hx

/-- `k` of the digits `ds` stand after the point: `decimal_from_parsed` hands on `T.lower x k`, which stands for `x - k` -/
theorem outcome_of_encode (T : Ty) (neg : Bool) (ds : List Nat) (hds : AsciiDigits ds) (hne : ds ≠ []) (x : Int) (k : Nat)
    (hk : k ≤ ds.length) (hx : (T.expIsI32 && !inI32 x) = false) :
    FiniteOutcome T neg (valOf ds) ds.length x (x - k) (liftOverflow (encodeFinite T neg ds (T.lower x k))) := by
  have h := C01.C01_encodeFinite T neg ds hds hne (x - k) fun hi => by have := i32_of_cond T x hx hi; omega
  rw [show C01.passed T (x - k) = T.lower x k from rfl] at h
  rw [FiniteOutcome.eq_def, if_neg (Bool.eq_false_iff.1 hx)]
  cases hr : encodeFinite T neg ds (T.lower x k) with
  | ok b => rw [hr] at h; simp only [liftOverflow]; exact h
  | error e =>
    rw [hr] at h
    obtain ⟨cap, n, hc, hlt, he, hcn, hf⟩ := h
    subst he
    simp only [liftOverflow]
    exact ⟨cap, n, hc, hlt, rfl, rfl, hcn, hf⟩

/-- without a point the written exponent is handed on as it is -/
theorem lower_zero {T : Ty} {x : Int} (hx : (T.expIsI32 && !inI32 x) = false) : T.lower x 0 = x := by
  unfold Ty.lower
  by_cases hi : T.expIsI32 = true
  · have := i32_of_cond T x hx hi
    simp only [hi, if_true, satI32, Nat.cast_zero, sub_zero]
    rw [if_neg (by omega), if_neg (by omega)]
  · simp [hi]

/-- **C01 / C04 / C07 / C17 at the API (finite numerals).** For every type and every grammatical finite numeral —
    any digit count, any exponent text, any spelling — `try_parse_str` answers as `FiniteOutcome` says: the exact IEEE
    encoding of (written sign, written digits as an integer, written exponent − fractional digits) at a width with the
    C07 guarantees, or a truthful error.  The outcome depends on the text through the sign, the digits as written, `q` and
    (for the exponent-overflow arm) the written exponent `x`; up to 160 bits it fixes the bytes, above that
    `BigBitstring`'s width only to within one word. -/
theorem C01_tryParseStr_finite (T : Ty) (txt : List Nat) (s : Bool) (i fr : List Nat) (ex : Option (Bool × List Nat))
    (h : Spec.parse txt = some (.finite s i fr ex)) :
    FiniteOutcome T s (ofDigits (i ++ fr)) (i.length + fr.length) (expValue ex) (expValue ex - fr.length) (tryParseStr T txt) := by
  obtain ⟨p, hp, hnum, hok⟩ := parseStr_of_parse h
  obtain ⟨⟨tb, ⟨sneg, srange, spoint⟩, exo⟩, rfl, hf⟩ := numeralOf_eq_finite hnum
  obtain ⟨rfl, hsig, -⟩ := hok
  simp only [tryParseStr, hp, fromParsed_finite]
  simp only [numeralOfFinite, TextBuf.ascii] at hf hsig
  obtain rfl : ex = exo.map fun e => (e.neg, digitVals (slice tb.text e.range)) := by cases spoint <;> cases hf <;> rfl
  by_cases hx : (T.expIsI32 && !inI32 (expValue (exo.map fun e => (e.neg, digitVals (slice tb.text e.range))))) = true
  · rw [if_pos hx, FiniteOutcome.eq_def, if_pos hx]; rfl
  rw [if_neg hx]
  have hx' := Bool.eq_false_iff.2 hx
  cases spoint with
  | none => cases hf; simpa [valOf, lower_zero hx'] using outcome_of_encode T _ _ hsig.1 hsig.2 _ 0 (Nat.zero_le _) hx'
  | some pt =>
    cases hf
    simpa [valOf] using outcome_of_encode T _ _ (asciiDigits_append.2 ⟨hsig.1, hsig.2.2.1⟩) (by simp [hsig.2.1]) _ _
      (List.length_append ▸ Nat.le_add_left ..) hx'

/-- **C09 (infinity) at the API.** Every spelling of infinity — both signs, `inf`/`infinity`, any letter case — gives the
    canonical pattern at the type's width (32 bits for the dynamic types). -/
theorem C09_tryParseStr_inf (T : Ty) (txt : List Nat) (s : Bool) (h : Spec.parse txt = some (.inf s)) :
    tryParseStr T txt = .ok ⟨4 * C09.baseN T, encodeInf ⟨C09.baseN T⟩ s⟩ := by
  obtain ⟨p, hp, hnum, -⟩ := parseStr_of_parse h
  cases numeralOf_eq_inf hnum
  simp only [tryParseStr, hp, C09.C09_inf, liftOverflow]

/-- what the properties say about the answer to a NaN numeral with sign `s`, kind `g` and payload digits `ds`
    (`[]` when there are no brackets or nothing between them) -/
def NanOutcome (T : Ty) (s g : Bool) (ds : List Nat) (r : Except Err Buf) : Prop :=
  match r with
  | .ok b => ∃ n, 0 < n ∧ b = ⟨4 * n, Spec.encodeNan ⟨n⟩ s g (ofDigits ds)⟩ ∧
      ofDigits ds < 1000 ^ (Fmt.mk n).declets ∧
      (ds = [] → n = C09.baseN T) ∧
      (ds ≠ [] → ds.length + 1 ≤ (Fmt.mk n).p ∧
        (match T.fixedN with
         | some w => n = w
         | none => need (ds.length + 1) none ≤ n ∧ n ≤ need (ds.length + 1) none + 1 ∧
                   (need (ds.length + 1) none ≤ 5 → n = need (ds.length + 1) none)))
  | .error (.overflow (.wouldOverflow mx rq)) => ds ≠ [] ∧ ∃ cap n, T.capN = some cap ∧ cap < need (ds.length + 1) none ∧
      mx = 4 * cap ∧ rq = 4 * n ∧ cap < n ∧ (Fmt.mk n).fitsB (ds.length + 1) none = true
  | .error _ => False

theorem NanOutcome.error {T : Ty} {s g : Bool} {ds : List Nat} {e : Err} (h : NanOutcome T s g ds (.error e)) :
    ds ≠ [] ∧ ∃ cap n, e = .overflow (.wouldOverflow (4 * cap) (4 * n)) ∧ T.capN = some cap ∧
      cap < need (ds.length + 1) none ∧ cap < n ∧ (Fmt.mk n).fitsB (ds.length + 1) none = true := by
  match e, h with
  | .overflow (.wouldOverflow _ _), ⟨hne, cap, n, hc, hlt, rfl, rfl, hcn, hf⟩ => exact ⟨hne, cap, n, rfl, hc, hlt, hcn, hf⟩

/-- an accepted NaN in the shape of `FiniteOutcome.ok`: the width clauses uniformly
    for an absent and a written payload -/
theorem NanOutcome.ok {T : Ty} {s g : Bool} {ds : List Nat} {b : Buf} (h : NanOutcome T s g ds (.ok b)) :
    ∃ n, b = ⟨4 * n, Spec.encodeNan ⟨n⟩ s g (ofDigits ds)⟩ ∧ WF b n ∧ decode ⟨n⟩ b.bits = .nan s g (ofDigits ds) ∧
      need (ds.length + 1) none ≤ n ∧
      match T.fixedN with
      | some w => n = w
      | none => n ≤ need (ds.length + 1) none + 1 ∧ (need (ds.length + 1) none ≤ 5 → n = need (ds.length + 1) none) := by
  obtain ⟨n, hn, rfl, hpay, h0, h1⟩ := h
  obtain ⟨hdec, hlt⟩ := decode_encodeNan n hn s g _ hpay
  refine ⟨n, rfl, ⟨hn, rfl, hlt⟩, hdec, ?_⟩
  by_cases he : ds = []
  · have hn0 : n = (T.fixedN).getD 1 := h0 he
    have hpos := need_pos (ds.length + 1) none
    rw [he, need_none_eq] at hpos ⊢
    cases hfix : T.fixedN <;> simp [hfix] at hn0 ⊢ <;> omega
  · obtain ⟨hp', hm⟩ := h1 he
    refine ⟨(need_le_iff _ _ n hn).2 ((fitsB_none ..).2 hp'), ?_⟩
    cases hfix : T.fixedN <;> rw [hfix] at hm
    · exact ⟨hm.2.1, hm.2.2⟩
    · exact hm

/-- **C09 (NaN) at the API.** Every spelling of a NaN: the canonical pattern with the written sign and kind, the payload
    digits stored as an integer (an absent, empty or zero payload is payload 0), 32 bits / the type's width unless the
    payload needs more, a truthful overflow error when a bounded type cannot hold the payload. -/
theorem C09_tryParseStr_nan (T : Ty) (txt : List Nat) (s g : Bool) (pl : Option (List Nat))
    (h : Spec.parse txt = some (.nan s g pl)) : NanOutcome T s g (pl.getD []) (tryParseStr T txt) := by
  obtain ⟨p, hp, hnum, hok⟩ := parseStr_of_parse h
  obtain ⟨tb, payload, rfl, rfl⟩ := numeralOf_eq_nan hnum
  obtain ⟨rfl, hpl⟩ := hok
  simp only [tryParseStr, hp]
  have hbase := C09.baseN_pos T
  cases hf : payload.filter (fun s => decide (s.range.stop > s.range.start)) with
  | none =>
    -- no payload, or nothing between the brackets
    have he : (payload.map fun r => digitVals (slice tb.ascii r.range)).getD [] = [] := by
      cases payload with
      | none => rfl
      | some ps =>
        have := Option.filter_eq_none_iff.1 hf ps rfl
        rw [decide_eq_true_eq, Nat.not_lt] at this
        simp only [Option.map_some, Option.getD_some, slice, Nat.sub_eq_zero_of_le this, List.take_zero]
        rfl
    rw [C09.C09_nan_none T tb g s payload hf, he]
    exact ⟨C09.baseN T, hbase, by simp [ofDigits], by simp [ofDigits], fun _ => rfl, fun h => absurd rfl h⟩
  | some ps =>
    obtain ⟨rfl, hr⟩ := Option.filter_eq_some_iff.1 hf
    have hr : ps.range.stop > ps.range.start := by simpa using hr
    obtain ⟨hd, hne⟩ := hpl ps rfl
    have hne := hne hr
    have hspec := C09.C09_nan_payload T tb g s ps hr hd hne
    have hl := digitVals_length (slice tb.ascii ps.range)
    have hne' : digitVals (slice tb.ascii ps.range) ≠ [] := fun h0 => hne (digitVals_eq_nil.1 h0)
    simp only [Option.map_some, Option.getD_some]
    cases hres : fromParsed T (.nan ⟨tb, g, s, some ps⟩) with
    | ok b =>
      rw [hres] at hspec
      obtain ⟨n, hn, hb, hp', hw⟩ := hspec
      refine ⟨n, hn, hb, ?_, fun h0 => absurd h0 hne', fun _ => by rw [hl]; exact ⟨hp', hw⟩⟩
      rw [fmt_p n hn] at hp'
      exact valOf_lt_thousands hd (Nat.le_of_succ_le_succ hp')
    | error e =>
      rw [hres] at hspec
      obtain ⟨cap, n, hc, hlt, rfl, hcn, hf⟩ := hspec
      simp only [liftOverflow, NanOutcome]
      rw [hl]
      exact ⟨hne', cap, n, hc, hlt, rfl, rfl, hcn, hf⟩

/-- whatever a bounded type answers to a text lies within its capacity; `NanOutcome` does not say so, hence the detour
    through `fromParsed` for a NaN -/
theorem tryParseStr_len_cap (T : Ty) (txt : List Nat) (b : Buf) (h : tryParseStr T txt = .ok b)
    (cap : Nat) (hc : T.capN = some cap) : b.len ≤ 4 * cap := by
  cases hp : parse txt with
  | none =>
    obtain ⟨e, he, _⟩ := C06_tryParseStr_reject T txt hp
    rw [he] at h; cases h
  | some num =>
    cases num with
    | finite s i fr ex =>
      have hout := C01_tryParseStr_finite T txt s i fr ex hp
      rw [h] at hout
      obtain ⟨-, n, -, rfl, -, -, -, hcapn, -⟩ := hout.ok
      exact Nat.mul_le_mul_left 4 (hcapn cap hc)
    | inf s =>
      rw [C09_tryParseStr_inf T txt s hp] at h
      injection h with h; subst h
      exact Nat.mul_le_mul_left 4 (C09.baseN_le_capN hc)
    | nan s g pl =>
      obtain ⟨p, hps, hnum, -⟩ := parseStr_of_parse hp
      obtain ⟨tb, payload, rfl, -⟩ := numeralOf_eq_nan hnum
      simp only [tryParseStr, hps] at h
      cases hf : fromParsed T (.nan ⟨tb, g, s, payload⟩) with
      | error e => rw [hf] at h; cases h
      | ok b' => rw [hf] at h; cases h; exact C09.fromParsed_nan_len T _ _ hf cap hc

end Decstr.Props.C06
