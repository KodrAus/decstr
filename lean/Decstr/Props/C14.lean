import Decstr.Proofs.Stream
/-!
# C14 — streaming parse equals string parse for every fragmentation of the text

`tryParse T frags fault` is the model of `T::try_parse(display)` for a `Display` that delivers `frags` through
`write_str`/`write_char` (a `write_char` is a one-character `write_str`), `tryParseStr T text` of `T::try_parse_str`.
No bound on the number, size or content of the fragments (empty fragments included).
-/
namespace Decstr.Props.C14
open Decstr.Model Decstr.Spec Decstr.Proofs

/-- the fixed text buffer of a type, if it has one -/
def textCap (T : Ty) : Option Nat :=
  match T.textKind with
  | .array cap => some cap
  | _ => none

/-- **C14 (every fragmentation).** Streaming gives exactly the outcome of the string entry point on the concatenation
    — same bytes, same error — for every fragment list; the only other possible outcome is "buffer too small", and
    only for a type with a fixed text buffer and a text longer than that buffer. -/
theorem C14_frag (T : Ty) (frs : List (List Nat)) :
    tryParse T frs .none = tryParseStr T frs.flatten ∨
    (tryParse T frs .none = .error (.parse .bufferTooSmall) ∧ ∃ cap, textCap T = some cap ∧ cap < frs.flatten.length) := by
  exact (C14_tryParse T frs).imp_right fun ⟨h, cap, hc, hlt⟩ => ⟨h, cap, by simp [textCap, hc], hlt⟩

/-- **C14 (fits).** A text no longer than the type's text buffer never gets "buffer too small". -/
theorem C14_fits (T : Ty) (cap : Nat) (hc : textCap T = some cap) (frs : List (List Nat)) (h : frs.flatten.length ≤ cap) :
    tryParse T frs .none = tryParseStr T frs.flatten := by
  refine (C14_frag T frs).resolve_right ?_
  rintro ⟨-, c, hc', hlt⟩
  rw [hc] at hc'; cases hc'; omega

/-- **C14 (failing source).** A `Display` that reports failure — before any fragment `k ≤ |frags|`, or at the end —
    yields an error, never a value built from the partial text. -/
theorem C14_fault (T : Ty) (frs : List (List Nat)) (k : Nat) (hk : k ≤ frs.length) :
    ∃ e, tryParse T frs (.failAt k) = .error e := by
  obtain ⟨e, he⟩ := C14_fail T.textKind frs k hk
  exact ⟨.parse e, by simp [tryParse, he]⟩

/-- **C14 (error-swallowing source).** A `Display` that ignores the errors it is handed gets exactly the outcome of an
    honest one: a rejected text stays rejected. -/
theorem C14_swallow (T : Ty) (frs : List (List Nat)) : tryParse T frs .swallow = tryParse T frs .none := by
  simp [tryParse, parseFmt_swallow]

/-- `C14_frag` for every source that does not report failure: an honest one, or one that swallows the errors it is
    handed -/
theorem tryParse_quiet (T : Ty) (frags : List (List Nat)) {F : Fault} (hF : F = .none ∨ F = .swallow) :
    tryParse T frags F = tryParseStr T frags.flatten ∨
    (tryParse T frags F = .error (.parse .bufferTooSmall) ∧
      ∃ cap, textCap T = some cap ∧ cap < frags.flatten.length) := by
  rcases hF with rfl | rfl
  · exact C14_frag T frags
  · rw [C14_swallow]
    exact C14_frag T frags

/-- the text buffers: 32, 64, 128, 128 bytes and unbounded -/
example : textCap .b32 = some 32 ∧ textCap .b64 = some 64 ∧ textCap .b128 = some 128 ∧ textCap .dyn = some 128 ∧ textCap .big = none := by
  decide

end Decstr.Props.C14
