import Decstr.Proofs.JudgeLemmas
import Decstr.Proofs.JudgeParse
import Decstr.Proofs.JudgeText
import Decstr.Proofs.JudgeStable
import Decstr.Proofs.Parser
import Decstr.Props.C06
import Decstr.Props.C02
import Decstr.Props.C03
import Decstr.Props.C08
import Decstr.Props.C10
import Decstr.Props.C11
import Decstr.Props.C12
import Decstr.Props.C13
import Decstr.Props.C14
import Decstr.Props.C16
import Decstr.Props.C16len
import Decstr.Props.C18
/-!
# Judged — the run-time oracle accepts every answer of the model

The judgements of `Spec/Judge.lean` are run by the check on the implementation's answers; the theorems of `Props/*.lean`
are about the model's.  Here, for each request of the line protocol, `judgeX` applied to the answer the model gives
(`Model.Api.answerWith`) returns no complaint (`judgeX_model`, in the order of `Spec/Judge.lean`): the oracle demands
nothing the theorems do not give.  Each is stated on the values `Driver.judge` passes, before they become tokens;
`modelStable` and the `modelXAns` are the expressions `answerWith` computes there, copied because it has no statement per
operation.  `try_le_fill`: `Props/C16len`; the `@t` requests: `Props/C17conv`; the judgements the driver appends: `Judged2`.
-/
namespace Decstr.Props.Judged
open Decstr.Model Decstr.Spec Decstr.Proofs Decstr.Proofs.Judge

/-- **C01 / C04 / C06 / C07 / C09 / C17**: every `parse_str` request -/
theorem judgeParse_model (T : Ty) (txt : List Nat) : judgeParse T txt (pans (tryParseStr T txt)) = [] := by
  cases hp : parse txt with
  | none => exact judge_reject T txt hp
  | some num =>
    cases num with
    | finite s i fr ex =>
      exact judge_finite T txt s i fr ex hp (C06.C01_tryParseStr_finite T txt s i fr ex hp)
    | inf s =>
      rw [C06.C09_tryParseStr_inf T txt s hp]
      exact judge_inf T txt s hp
    | nan s g pl =>
      exact judge_nan T txt s g pl hp (fun b hb => C06.tryParseStr_len_cap T txt b hb)
        (C06.C09_tryParseStr_nan T txt s g pl hp)

/-- `judgeParseFmt` judges any answer but a panic and "buffer too small" (which `judgeParse` turns down) as `judgeParse` -/
theorem judgeParseFmt_of_judgeParse (T : Ty) (cap : Option Nat) (frags : List (List Nat)) (fault : String)
    (hf : fault.startsWith "fail" = false) {a : PAns} (h : judgeParse T frags.flatten a = []) :
    judgeParseFmt T cap frags fault a = [] := by
  unfold judgeParseFmt
  simp only [hf, Bool.false_eq_true, if_false]
  split
  · cases h
  · split
    · exact absurd h (judgeParse_buffer _ _ _ _ _)
    · exact absurd h (judgeParse_buffer _ _ _ _ _)
    · rw [h]; rfl

/-- **C14**: every `parse_fmt` request whose source does not report failure (an honest `Display` or one that swallows the
    errors it is handed), every fragmentation.  `fault` is the request's token, which is all the judgement sees, `F` the
    fault the model runs with (`Model.Api.parseFault` derives it from the token); `hf` and `hF` hold of such a pair. -/
theorem judgeParseFmt_model (T : Ty) (frags : List (List Nat)) (fault : String) (hf : fault.startsWith "fail" = false)
    (F : Fault) (hF : F = .none ∨ F = .swallow) :
    judgeParseFmt T (C14.textCap T) frags fault (pans (tryParse T frags F)) = [] := by
  rcases C14.tryParse_quiet T frags hF with h | ⟨h, cap, hc, hlt⟩
  · rw [h]; exact judgeParseFmt_of_judgeParse T _ frags fault hf (judgeParse_model T _)
  · rw [h, hc]
    simp only [pans, errFacts, judgeParseFmt.eq_def, hf, Bool.false_eq_true, if_false]
    -- each text buffer (32, 64, 128, 128 bytes) holds the longest canonical spelling of its type
    have hreq : reqTextCap T ≤ cap := by
      cases T <;> cases hc <;> decide
    simp only [List.append_eq_nil_iff, chk_eq_nil, decide_eq_true_eq]
    omega

/-- **C14**: a `Display` that reports failure before fragment `k ≤ |frags|` (or at the end); for a token `fail:k` with `k`
    beyond the fragments the source is honest and the oracle's rule does not apply, which is what `hk` excludes -/
theorem judgeParseFmt_model_fail (T : Ty) (cap : Option Nat) (frags : List (List Nat)) (fault : String)
    (hf : fault.startsWith "fail" = true) (k : Nat) (hk : k ≤ frags.length) :
    judgeParseFmt T cap frags fault (pans (tryParse T frags (.failAt k))) = [] := by
  obtain ⟨e, he⟩ := C14.C14_fault T frags k hk
  rw [he]
  simp only [pans, judgeParseFmt.eq_def, hf, if_true]

example : ("none".startsWith "fail") = false ∧ ("swallow".startsWith "fail") = false ∧ ("fail:2".startsWith "fail") = true := by
  decide +kernel

/-- **C02**: every held bit pattern -/
theorem judgeFormat_model (T : Ty) (bytes : List Nat) (h : T.holds bytes.length = true) (hb : ∀ x ∈ bytes, x < 256) :
    judgeFormat bytes (some (toText T (Buf.ofBytes bytes))) = [] := by
  obtain ⟨n, H⟩ := HeldBytes.of h hb
  obtain ⟨num, hparse, hdatum, hlay, _⟩ := C02.C02_format T _ n H.wf H.printable
  simp only [judgeFormat.eq_def, hparse, H.decode, hdatum, Datum.same_self, hlay]
  rfl

def modelStable (T : Ty) (back : Except Err Buf) : Bool :=
  match back with
  | .ok b2 => (match tryParseStr T (toText T b2) with | .ok b3 => b3.toBytes == b2.toBytes | _ => false)
  | _ => true

theorem judgeRoundtrip_of_core (T : Ty) (bytes : List Nat) (txt : Option (List Nat)) (back : PAns) (stable : Bool)
    (h : judgeRoundtripCore T bytes txt back stable = []) : judgeRoundtrip T bytes txt back stable = [] := by
  unfold judgeRoundtrip
  rw [h]
  split <;> simp

/-- **C03** (all types), everything but the `stable` flag -/
theorem judgeRoundtrip_model_partial (T : Ty) (bytes : List Nat) (h : T.holds bytes.length = true)
    (hb : ∀ x ∈ bytes, x < 256) :
    judgeRoundtrip T bytes (some (toText T (Buf.ofBytes bytes)))
      (pans (tryParseStr T (toText T (Buf.ofBytes bytes)))) true = [] := by
  obtain ⟨n, H⟩ := HeldBytes.of h hb
  have hbits : (Buf.ofBytes bytes).bits = ofLeBytes bytes := rfl
  obtain ⟨b', n', hr, hwf', hdec, hfix, hbits'⟩ := C03.C03_reparse T _ n H.wf H.printable H.cap
  rw [hbits] at hdec hbits'
  rw [hr]
  apply judgeRoundtrip_of_core
  simp only [judgeRoundtripCore.eq_def, judgeFormat_model T bytes h hb, pans, List.nil_append, H.words, hwf'.toBytes_length,
    Nat.mul_div_cancel_left n' (show 0 < 4 by decide), hwf'.ofLeBytes_toBytes, chk_true, List.append_nil]
  -- left: the C03 rule, by `T.fixedN`: canonical form of the original (fixed widths) / the same datum (dynamic)
  cases hf : T.fixedN with
  | none => simp only [hdec, Datum.same_self, chk_true]
  | some w =>
    obtain rfl : n' = n := by rw [hfix w hf, H.fixed w hf]
    simp [hbits', canon, H.len]

/-- **C03**, `stable` flag included.  The statement without `hbig` is open: beyond 160 bits `BigBitstring` may read its
    text back into a buffer one step wider than the original, and only `judgeRoundtrip_model_partial` is proved there. -/
theorem judgeRoundtrip_model (T : Ty) (bytes : List Nat) (h : T.holds bytes.length = true) (hb : ∀ x ∈ bytes, x < 256)
    (hbig : T = .big → bytes.length ≤ 20) :
    judgeRoundtrip T bytes (some (toText T (Buf.ofBytes bytes)))
      (pans (tryParseStr T (toText T (Buf.ofBytes bytes))))
      (modelStable T (tryParseStr T (toText T (Buf.ofBytes bytes)))) = [] := by
  obtain ⟨n, H⟩ := HeldBytes.of h hb
  have h5 : n ≤ 5 := by
    by_cases hT : T = .big
    · have := hbig hT; have := H.len; omega
    · exact H.printable ((Ty.expIsI32_iff_ne_big T).2 hT)
  obtain ⟨b', h1, h2⟩ := reparse_stable T _ n H.wf h5 H.cap H.fixed
  have hst : modelStable T (tryParseStr T (toText T (Buf.ofBytes bytes))) = true := by
    rw [h1]; simp only [modelStable]; rw [h2]; simp
  rw [hst]
  exact judgeRoundtrip_model_partial T bytes h hb

theorem judgeRoundtrip_model_fixed (T : Ty) (w : Nat) (hT : T.fixedN = some w) (bytes : List Nat)
    (h : T.holds bytes.length = true) (hb : ∀ x ∈ bytes, x < 256) :
    judgeRoundtrip T bytes (some (toText T (Buf.ofBytes bytes)))
      (pans (tryParseStr T (toText T (Buf.ofBytes bytes))))
      (modelStable T (tryParseStr T (toText T (Buf.ofBytes bytes)))) = [] :=
  judgeRoundtrip_model T bytes h hb (fun hb' => by rw [hb'] at hT; cases hT)

/-- **C03 / C09**: the bytes read back in a round trip, judged as a parse (canonical at their width, for every type) -/
theorem judgeReparse_model (T : Ty) (txt : List Nat) : judgeReparse T txt (pans (tryParseStr T txt)) = [] := by
  have hj := judgeParse_model T txt
  unfold judgeReparse
  split
  · rw [hj]; rfl
  · rfl

/-- **C03** (text → bits → text): the text printed for a parsed numeral -/
theorem judgeReprint_model (T : Ty) (txt : List Nat) (b : Buf) (h : tryParseStr T txt = .ok b) :
    judgeReprint txt (toText T b) = [] := by
  cases hp : parse txt with
  | none => simp only [judgeReprint.eq_def, hp]
  | some num =>
    obtain ⟨n, hwf, -, hd, -, hT⟩ := C03.stored T txt num hp b h
    obtain ⟨num', hp', hd', _⟩ := C02.C02_format T b n hwf hT
    simp only [judgeReprint.eq_def, hp, hp']
    rw [hd', hd, Datum.same_self]; rfl

/-- **C08**: classification and printed category of every held bit pattern -/
theorem judgeClassify_model (T : Ty) (bytes : List Nat) (h : T.holds bytes.length = true) (hb : ∀ x ∈ bytes, x < 256) :
    let b := Buf.ofBytes bytes
    judgeClassify bytes ⟨isSignNegative b, isFinite b, isInfinite b, isNan b, isQuietNan b, isSignalingNan b⟩
      (firstTok (toText T b)).1 (firstTok (toText T b)).2 = [] := by
  intro b
  obtain ⟨n, H⟩ := HeldBytes.of h hb
  show judgeClassify bytes (C08.modelCls b) _ _ = []
  rw [C08.C08_ieee b n H.wf.toC08, firstTok_toText T b n H.wf H.printable]
  exact judgeClassify_datum H.decode

/-- **C11.**  Without `hlen` the statement is false for `BigBitstring` buffers of about 1 GB
    (`judgeToInt_big_huge_rejected`, /verif/notes/NOTES-judge.md); between 2^29 bytes and that size nothing is proved. -/
theorem judgeToInt_model_partial (T : Ty) (bytes : List Nat) (h : T.holds bytes.length = true) (hb : ∀ x ∈ bytes, x < 256)
    (I : IntTy) (hI : I.bits ≤ 128) (hlen : bytes.length < 2 ^ 29) :
    judgeToInt bytes I (oans (toInt T (Buf.ofBytes bytes) I)) = [] := by
  obtain ⟨n, H⟩ := HeldBytes.of h hb
  have hn : n < 2 ^ 27 := by have := H.len; omega
  rcases H.wf.classes with ⟨hfin, -⟩ | ⟨hfin, -, hd⟩ | ⟨hfin, -, -, hd⟩
  · obtain ⟨s, c, e, hd, heq⟩ := C11.C11_eq T _ n H.wf hn I hI hfin
    rw [heq, ← intValue_exact I hI s c e]
    simp only [judgeToInt.eq_def, H.decode, hd]
    cases hiv : intValue s c e with
    | none => rfl
    | some v =>
      by_cases hcont : I.contains v = true
      · by_cases hsn : s = true ∧ I.signed = false
        · -- a negative value in an unsigned range is zero: the oracle accepts `None` for `-0`
          obtain ⟨rfl, hsg⟩ := hsn
          have hc0 : c = 0 := by
            by_contra hc0
            have := intValue_neg hc0 hiv
            rw [contains_iff] at hcont
            simp only [IntTy.min, hsg, Bool.false_eq_true, if_false] at hcont
            exact Int.not_le.2 this hcont.1
          simp [hcont, hsg, hc0, oans]
        · have hcond : (!I.signed && s && decide (c = 0)) = false := Bool.eq_false_iff.2 fun h => by
            simp only [Bool.and_eq_true, Bool.not_eq_true'] at h
            exact hsn ⟨h.1.2, h.1.1⟩
          simp [hcont, hsn, hcond, oans]
      · simp [hcont, oans]
  -- the infinity and the NaN arm: the model answers `None`, which is what the oracle asks
  all_goals
    rw [C11.C11_specials T _ n H.wf hn I hI hfin]
    simp only [judgeToInt.eq_def, oans, H.decode, hd]; rfl

/-- **C11**: the four bounded types, every primitive target -/
theorem judgeToInt_model (T : Ty) (hT : T ≠ .big) (bytes : List Nat) (h : T.holds bytes.length = true)
    (hb : ∀ x ∈ bytes, x < 256) (I : IntTy) (hI : I.bits ≤ 128) :
    judgeToInt bytes I (oans (toInt T (Buf.ofBytes bytes) I)) = [] := by
  apply judgeToInt_model_partial T bytes h hb I hI
  obtain ⟨n, H⟩ := HeldBytes.of h hb
  have := H.printable ((Ty.expIsI32_iff_ne_big T).2 hT)
  have := H.len
  omega

/-- **Finding (C11).**  `judgeToInt_model` for `BigBitstring` without a length bound is FALSE: the canonical pattern of
    `10^k · 10^(−k)` (the integer 1 with `k > 2^31` trailing zeros) is answered `None` by the model (as by
    `decimal_to_int`, whose `exp.to_i32()` fails and whose fallback arm accepts only zero), while the oracle — rightly, by
    the text of C11 — demands `Some(1)`.  The smallest such buffer has `n = 238 609 295` words (954 437 180 bytes). -/
theorem judgeToInt_big_huge_rejected (n k : Nat) (hk : 2147483648 < k) (hn : k + 1 ≤ 9 * n - 2) :
    let bytes := leBytes (4 * n) (encodeFin ⟨n⟩ false (10 ^ k) (-(k : Int)))
    Ty.big.holds bytes.length = true ∧ (∀ x ∈ bytes, x < 256) ∧
    toInt .big (Buf.ofBytes bytes) ⟨true, 8⟩ = none ∧
    judgeToInt bytes ⟨true, 8⟩ (oans (toInt .big (Buf.ofBytes bytes) ⟨true, 8⟩)) ≠ [] := by
  have hn0 : 0 < n := by omega
  have hpos : 0 < 10 ^ k := Nat.pow_pos (by decide)
  have hc : 10 ^ k < 10 ^ (Fmt.mk n).p := Nat.pow_lt_pow_right (by decide) hn
  -- the oracle: the value is the integer 1
  have hiv : intValue false (10 ^ k) (-(k : Int)) = some 1 := by
    have hdig : ¬ (k > digits10 (10 ^ k)) := fun hgt =>
      absurd (lt_pow_digits10 (10 ^ k)) (Nat.not_lt.2 (Nat.pow_le_pow_right (by decide) (Nat.le_of_lt hgt)))
    unfold intValue
    have hge : ¬ (-(k : Int) ≥ 0) := by omega
    have hk' : (- -(k : Int)).toNat = k := by rw [Int.neg_neg, Int.toNat_natCast]
    simp only [Nat.ne_of_gt hpos, if_false, hge, hk', hdig, Nat.mod_self, if_true, Nat.div_self hpos]
    rfl
  -- nothing else is needed of the coefficient: the power is named once
  generalize 10 ^ k = C at hpos hc hiv ⊢
  intro bytes
  -- `k < p ≤ bias`, and `-k ≤ 0 ≤ qmax`
  have he : (Fmt.mk n).qmin ≤ -(k : Int) ∧ -(k : Int) ≤ (Fmt.mk n).qmax := by
    have hemax : 0 < (Fmt.mk n).emax := Nat.mul_pos (by decide) (Nat.pow_pos (by decide))
    have hkb : k ≤ (Fmt.mk n).bias := by simp only [Fmt.bias, Fmt.p]; omega
    exact ⟨Int.neg_le_neg (Int.ofNat_le.2 hkb),
      Int.le_trans (Int.neg_nonpos_of_nonneg (Int.natCast_nonneg k)) (zero_in_range n hn0).2⟩
  obtain ⟨hdec, hlt⟩ := decode_encodeFin n hn0 false C (-(k : Int)) hc he
  obtain ⟨b, hb⟩ : ∃ b : Buf, b = ⟨4 * n, encodeFin ⟨n⟩ false C (-(k : Int))⟩ := ⟨_, rfl⟩
  have hwf : WF b n := by rw [hb]; exact ⟨hn0, rfl, hlt⟩
  have hdecb : decode ⟨n⟩ b.bits = .fin false C (-(k : Int)) := by rw [hb]; exact hdec
  have hbytes : bytes = b.toBytes := by rw [hb]; rfl
  rw [hbytes, hwf.ofBytes_toBytes]
  -- the model: the exponent is not an `i32`, the digits are not all zero
  have hnone : toInt .big b ⟨true, 8⟩ = none := by
    obtain ⟨-, h1, h2, h3⟩ := hwf.of_decode_fin hdecb
    have hall : (allDigits b (unbiasedExponent b).2).all (· == 48) = false := Bool.eq_false_iff.2 fun hz =>
      Nat.ne_of_gt hpos (h2.symm.trans ((all_zero_iff _ (allDigits_ascii hwf).2).1 hz))
    have hlo : decide (i32Min ≤ -(k : Int)) = false := decide_eq_false (by simp only [i32Min]; omega)
    unfold toInt toIntCore
    simp only [h1, h3, hall, hlo, Ty.expIsI32, Bool.false_or, Bool.false_and, Bool.and_false, Bool.false_eq_true, if_false]
  refine ⟨(holds_iff _ _).2 ⟨n, hn0, hwf.toBytes_length, nofun, nofun⟩, leBytes_lt _ _, hnone, ?_⟩
  rw [hnone]
  simp only [judgeToInt.eq_def, oans, hwf.toBytes_words, hwf.ofLeBytes_toBytes, hdecb, hiv]
  have : (⟨true, 8⟩ : IntTy).contains 1 = true := by decide
  simp [this]

/-- answer, printed text, value converted back (the last two only for a value) -/
def modelFromIntAns (T : Ty) (I : IntTy) (v : Int) : PAns × List Nat × OAns :=
  match fromInt T I v with
  | .ok b => (.ok b.toBytes, toText T b, oans (toInt T b I))
  | r => (resPAns r, [], .none)

/-- **C10**: every value of every primitive integer type -/
theorem judgeFromInt_model (T : Ty) (I : IntTy)
    (hI : I.bits = 8 ∨ I.bits = 16 ∨ I.bits = 32 ∨ I.bits = 64 ∨ I.bits = 128) (v : Int) (hv : I.contains v = true) :
    judgeFromInt T I v (modelFromIntAns T I v).1 (modelFromIntAns T I v).2.1 (modelFromIntAns T I v).2.2 = [] := by
  have hI128 : I.bits ≤ 128 := by omega
  have hneed5 := C10.need_int_le_five I hI128 v hv
  unfold modelFromIntAns
  cases hr : fromInt T I v with
  | ok b =>
    obtain ⟨n, rfl, hwf, hfit, hdec, hw⟩ := C10.C10_from_ok hr
    have hneedn := (need_le_iff _ _ n hwf.pos).2 hfit
    have W := width_of_small_need hneed5 hneedn hw
    simp only [judgeFromInt.eq_def, digits10_eq, W.ofNeed, judgeBytes_toBytes "C10" hwf, toText_integer T _ n hwf _ _ hdec,
      toDecimal_signText, C10.C10_back T I hI128 v hv _ hr, oans, W.fits, List.append_eq_nil_iff,
      chk_eq_nil, beq_self_eq_true, Bool.true_or, and_self, true_and]
    -- left: `(OAns.some v != OAns.panic) = true`
    rfl
  | none =>
    obtain ⟨_, cap, hcap, hlt⟩ := C10.C10_from_none hr
    simp only [resPAns, judgeFromInt.eq_def, digits10_eq, hcap]
    exact (chk_eq_nil ..).2 (decide_eq_true hlt)
  | panic => exact absurd hr (C10.fromInt_ne_panic T I hI v hv)

/-- `Bitstring32::to_f64` is offered as infallible, so a failure there would be a panic -/
def modelToFloatAns (T : Ty) (B : BinFmt) (r : Option Nat) : OAns :=
  if T == .b32 && B.prec == 53 && r.isNone then .panic else oans (r.map Int.ofNat)

/-- **C13**: every held bit pattern of every type -/
theorem judgeToFloat_model (T : Ty) (bytes : List Nat) (h : T.holds bytes.length = true) (hb : ∀ x ∈ bytes, x < 256)
    (B : BinFmt) (hB : B = binary32 ∨ B = binary64) :
    judgeToFloat T bytes B (modelToFloatAns T B (toFloat (Buf.ofBytes bytes) B)) = [] := by
  obtain ⟨n, H⟩ := HeldBytes.of h hb
  have hans : modelToFloatAns T B (toFloat (Buf.ofBytes bytes) B) = oans ((toFloat (Buf.ofBytes bytes) B).map Int.ofNat) := by
    unfold modelToFloatAns
    rw [if_neg]
    simp only [Bool.and_eq_true, beq_iff_eq, Option.isNone_iff_eq_none]
    rintro ⟨⟨rfl, hp⟩, hnone⟩
    obtain rfl : B = binary64 := hB.resolve_left (fun h => by rw [h] at hp; cases hp)
    obtain rfl : n = 1 := H.fixed 1 rfl
    obtain ⟨bits, hbt⟩ := C13.C13_b32_total _ H.wf
    rw [hbt] at hnone; cases hnone
  rw [hans]
  rcases H.wf.classes with ⟨hfin, hd⟩ | ⟨hfin, hinf, hd⟩ | ⟨hfin, hinf, -, hd⟩
  · cases ht : toFloat (Buf.ofBytes bytes) B with
    | some fb =>
      obtain ⟨s, c, e, m, hd', hr, _, rfl⟩ := C13.C13_sound _ n H.wf B hB hfin fb ht
      simp only [judgeToFloat.eq_def, Option.map, oans, H.decode, hd', hr, Int.ofNat_eq_natCast, beq_self_eq_true, chk_true]
    | none =>
      simp only [judgeToFloat.eq_def, Option.map, oans, H.decode, hd]
      cases hr : rneDecSafe B (valOf (allDigits (Buf.ofBytes bytes) (unbiasedExponent (Buf.ofBytes bytes)).2))
          (unbiasedExponent (Buf.ofBytes bytes)).1 with
      | none => rfl
      | some m =>
        -- a finite rounding of at most 17 significant digits in at most 160 bits would have been answered
        simp only [chk_eq_nil, Bool.not_eq_true', Bool.and_eq_false_iff, bne_eq_false_iff_eq, decide_eq_false_iff_not]
        by_cases hT : T = .big
        · exact Or.inl hT
        · right
          intro hsig
          have hn5 := H.printable ((Ty.expIsI32_iff_ne_big T).2 hT)
          have := C13.C13_some _ n H.wf hn5 B hB hfin
            (Nat.le_trans (stripped_length_le (allDigits_ascii H.wf).2) hsig) m hr
          rw [ht] at this; cases this
  · rw [toFloat_infinite _ B hfin hinf]
    simp only [judgeToFloat.eq_def, Option.map, oans, H.decode, hd, sgnBits, Int.ofNat_eq_natCast, beq_self_eq_true, chk_true]
  · rw [toFloat_nan _ B hfin hinf]
    obtain ⟨h1, h2, _⟩ := toFloatNan_isNan B hB (isSignNegative (Buf.ofBytes bytes)) (decodeDeclets (Buf.ofBytes bytes)).flatten
    simp only [judgeToFloat.eq_def, Option.map, oans, H.decode, hd]
    rw [chk_eq_nil]
    simp only [Int.toNat_natCast, Int.ofNat_eq_natCast, h1, Bool.and_eq_true, decide_eq_true_eq, beq_iff_eq]
    refine ⟨⟨Int.natCast_nonneg _, trivial⟩, ?_⟩
    rw [Bool.eq_iff_iff, decide_eq_true_iff]; exact h2

def modelFromFloatAns (T : Ty) (B : BinFmt) (bits : Nat) (ryu : List Nat) : PAns × List Nat × OAns :=
  match fromFloat T B bits ryu with
  | .ok b => (.ok b.toBytes, toText T b,
      if T == .b32 && B.prec == 53 && (toFloat b B).isNone then .panic else oans ((toFloat b B).map Int.ofNat))
  | r => (resPAns r, [], .none)

/-- **C12**: NaNs and infinities unconditionally, a finite float under the float formatter's contract
    (`C12.RyuContractWide`: the oracle's own "RYU" check plus the shape of `ryu`'s output); for `Bitstring64` (offered as
    infallible from `f32` only) with the sharpening of `C12.C12_infallible`, without which the `expect` could panic. -/
theorem judgeFromFloat_model (T : Ty) (B : BinFmt) (hB : B = binary32 ∨ B = binary64) (bits : Nat)
    (hbits : bits < 2 ^ B.width) (ryu : List Nat)
    (hry : B.isNan bits = false → B.isInf bits = false → ∃ s i fr ex, C12.RyuContractWide B bits ryu s i fr ex ∧
      (T.floatInfallible B = true → T = .b64 → i.length + fr.length ≤ 16 ∧ -60 ≤ expValue ex ∧ expValue ex ≤ 60)) :
    judgeFromFloat T B bits ryu (modelFromFloatAns T B bits ryu).1 (modelFromFloatAns T B bits ryu).2.1
      (modelFromFloatAns T B bits ryu).2.2 = [] := by
  have hbase := C09.baseN_pos T
  have hbN : (T.fixedN).getD 1 = C09.baseN T := rfl
  unfold modelFromFloatAns
  by_cases hnan : B.isNan bits = true
  · rw [C12.C12_nan T B bits ryu hnan]
    simp only [judgeFromFloat.eq_def, hnan, if_true, hbN]
    exact judgeBytes_toBytes "C12" (WF.encodeNan hbase _ false (Nat.pow_pos (by decide)))
  · have hnan' : B.isNan bits = false := by simpa using hnan
    by_cases hinf : B.isInf bits = true
    · have hb := C12.C12_inf T B bits ryu hinf
      have hback := C12.C12_back_inf T B hB bits hbits ryu hinf _ hb
      rw [hb]
      simp only [judgeFromFloat.eq_def, hnan', hinf, if_true, Bool.false_eq_true, if_false, hbN, hback,
        Option.isNone_some, Bool.and_false, Option.map, oans, List.append_eq_nil_iff, chk_eq_nil, beq_iff_eq,
        Int.ofNat_eq_natCast, and_true]
      exact judgeBytes_toBytes "C12" (WF.encodeInf hbase _)
    · have hinf' : B.isInf bits = false := by simpa using hinf
      obtain ⟨s, i, fr, ex, hc, h64⟩ := hry hnan' hinf'
      have hout := C12.C12_finite_wide T B hB bits ryu s i fr ex hc
      have hs' : decide (B.signMask ≤ bits) = s := hc.sign.symm
      -- the oracle's three "RYU" rules are the contract
      have hstarts : startsDigitOrMinusDigit ryu = true := startsWithDigitOrMinusDigit_eq ▸ hc.starts
      have h4 := C12.need_le_four hc.written hc.expo
      cases hr : fromFloat T B bits ryu with
      | ok b =>
        rw [hr] at hout
        obtain ⟨n, hn, hb, hfit, hw⟩ := hout
        obtain ⟨n', hwf, hdec⟩ := C12.C12_value T B hB bits ryu s i fr ex hc b hr
        obtain rfl : n' = n := by have := hwf.len; rw [hb] at this; exact (Nat.eq_of_mul_eq_mul_left (by decide) this).symm
        have hback := C12.C12_back_wide T B hB bits hbits ryu s i fr ex hc b hr
        have W := width_of_small_need (Nat.le_trans h4 (by decide)) ((need_le_iff _ _ n' hn).2 hfit) hw
        obtain ⟨num, hparse, hdatum, _⟩ := C02.C02_format T b n' hwf W.printable
        rw [hdec, hs'] at hdatum
        have hjb := judgeBytes_toBytes "C12" hwf
        rw [show b.bits = encodeFin ⟨n'⟩ s (ofDigits (i ++ fr)) (expValue ex - ↑fr.length) by rw [hb]] at hjb
        simp only [judgeFromFloat.eq_def, hs', hnan', hinf', Bool.false_eq_true, if_false, hc.parses, List.length_append,
          hwf.toBytes_words, W.ofSelf, hparse, hdatum, Datum.same_self, hback, Option.isNone_some, Bool.and_false,
          Option.map, oans, W.fits, hjb, List.append_eq_nil_iff, chk_eq_nil, Bool.and_eq_true, decide_eq_true_eq,
          beq_iff_eq, hc.rounds, hc.written, hc.significant, hc.expo.1, hc.expo.2, hstarts, Int.ofNat_eq_natCast,
          bne_iff_ne, ne_eq, reduceCtorEq, not_false_eq_true, and_self, and_true, true_and]
        -- left: the C07 rule `T.fixedN.isSome || (need ≤ n' && (n' ≤ need || T == .big && need > 5 && n' ≤ need + 1))`
        cases hf : T.fixedN with
        | some w => rfl
        | none => rw [← W.dyn hf, decide_eq_true (Nat.le_refl n')]; rfl
      | none =>
        rw [hr] at hout
        obtain ⟨_, cap, hcap, hlt⟩ := hout
        simp only [judgeFromFloat.eq_def, resPAns, hs', hnan', hinf', Bool.false_eq_true, if_false, hc.parses,
          List.length_append, hcap, List.append_eq_nil_iff, chk_eq_nil, Bool.and_eq_true, decide_eq_true_eq, beq_iff_eq,
          hc.rounds, hc.written, hc.significant, hc.expo.1, hc.expo.2, hstarts, and_self, true_and]
        exact hlt
      | panic => exact absurd hr (C12.fromFloat_ne_panic T B hB bits ryu s i fr ex hc h64)

/-- **C16**: every `bytes` request (store, read back, reverse) -/
theorem judgeBytesApi_model (bytes : List Nat) (hb : ∀ x ∈ bytes, x < 256) :
    judgeBytesApi bytes (Buf.ofBytes bytes).toBytes bytes.reverse bytes.reverse = [] := by
  simp [judgeBytesApi.eq_def, C16.C16_le_roundtrip bytes hb]

/-- **C16 / C17**: the two dynamic types; on a refusal `judgeTryLe` is `judgeTryLeLen` on the length -/
theorem judgeTryLe_model (T : Ty) (hT : T = .dyn ∨ T = .big) (bytes : List Nat) (hb : ∀ x ∈ bytes, x < 256) :
    judgeTryLe T bytes (pans (liftOverflow (tryFromLeBytes T bytes))) = [] := by
  cases hr : tryFromLeBytes T bytes with
  | ok b =>
    obtain ⟨hh, rfl⟩ := C16.tryFromLeBytes_ok hr
    simp only [liftOverflow, pans, judgeTryLe.eq_def, hh, C16.C16_le_roundtrip bytes hb, beq_self_eq_true, chk_true,
      List.append_nil]
  | error e =>
    have h := C16len.judgeTryLeLen_model T hT bytes.length
    rw [C16len.tryFromLeLen_eq, hr] at h
    exact h

/-- **C18**: the constants of a fixed-width type -/
theorem judgeConsts_model (T : Ty) (n : Nat) (hT : T.fixedN = some n) :
    judgeConsts T ⟨(encodeMax (4 * n) false).toBytes, (encodeMax (4 * n) true).toBytes, (encodeMin (4 * n) false).toBytes,
      (encodeMax (4 * n) false).toBytes, (encodeMax (4 * n) true).toBytes, (encodeMin (4 * n) false).toBytes,
      (Fmt.mk n).p, (Fmt.mk n).qmin, (Fmt.mk n).qmax⟩ = [] := by
  have hn := (Ty.fixedN_facts hT).1
  obtain ⟨w1, w3⟩ := C18.limits_wf n hn false
  obtain ⟨w2, -⟩ := C18.limits_wf n hn true
  obtain ⟨h1, h2, h3⟩ := C18.C18_fns n hn
  simp only [judgeConsts.eq_def, hT, w1.ofLeBytes_toBytes, w1.toBytes_length, w2.ofLeBytes_toBytes, w2.toBytes_length,
    w3.ofLeBytes_toBytes, w3.toBytes_length, h1, h2, h3, List.append_eq_nil_iff, chk_eq_nil, beq_self_eq_true,
    Bool.and_self, and_self]

/-- `-1.50e3` into decimal32; a 45-digit numeral that `Bitstring` must refuse; `snan(042)`; a syntax error -/
example : judgeParse .b32 [45, 49, 46, 53, 48, 101, 51] (pans (tryParseStr .b32 [45, 49, 46, 53, 48, 101, 51])) = [] :=
  judgeParse_model _ _
example : judgeParse .dyn (List.replicate 45 55) (pans (tryParseStr .dyn (List.replicate 45 55))) = [] :=
  judgeParse_model _ _
example : judgeParse .big [115, 110, 97, 110, 40, 48, 52, 50, 41] (pans (tryParseStr .big [115, 110, 97, 110, 40, 48, 52, 50, 41])) = [] :=
  judgeParse_model _ _
example : judgeParse .b64 [49, 46, 120] (pans (tryParseStr .b64 [49, 46, 120])) = [] := judgeParse_model _ _
/-- `-1.5e+3` (`Proofs.exFinite`) into decimal32 is `A2 70 00 15` -/
theorem exFinite_b32 : tryParseStr .b32 exFinite = .ok ⟨4, 0xA2700015⟩ := by
  unfold tryParseStr
  rw [exFinite_ok]
  show liftOverflow (fromParsed Ty.b32 _) = _
  decide +kernel
example : judgeReprint exFinite (toText .b32 ⟨4, 0xA2700015⟩) = [] := judgeReprint_model .b32 _ _ exFinite_b32

/-- a non-canonical 64-bit pattern (all-ones declets, large-digit combination) -/
def exBytes : List Nat := [0xff, 0xff, 0xff, 0xff, 0xff, 0xff, 0xff, 0x6f]
example : Ty.b64.holds exBytes.length = true ∧ Ty.dyn.holds exBytes.length = true ∧ ∀ x ∈ exBytes, x < 256 := by decide
example : judgeFormat exBytes (some (toText .b64 (Buf.ofBytes exBytes))) = [] :=
  judgeFormat_model .b64 exBytes (by decide) (by decide)
example : judgeClassify exBytes (C08.modelCls (Buf.ofBytes exBytes)) (firstTok (toText .dyn (Buf.ofBytes exBytes))).1
    (firstTok (toText .dyn (Buf.ofBytes exBytes))).2 = [] :=
  judgeClassify_model .dyn exBytes (by decide) (by decide)
example : judgeToInt exBytes ⟨false, 64⟩ (oans (toInt .b64 (Buf.ofBytes exBytes) ⟨false, 64⟩)) = [] :=
  judgeToInt_model .b64 (by decide) exBytes (by decide) (by decide) ⟨false, 64⟩ (by decide)
example : judgeToInt exBytes ⟨true, 128⟩ (oans (toInt .big (Buf.ofBytes exBytes) ⟨true, 128⟩)) = [] :=
  judgeToInt_model_partial .big exBytes (by decide) (by decide) ⟨true, 128⟩ (by decide) (by decide)
example : judgeToFloat .b64 exBytes binary32 (modelToFloatAns .b64 binary32 (toFloat (Buf.ofBytes exBytes) binary32)) = [] :=
  judgeToFloat_model .b64 exBytes (by decide) (by decide) binary32 (Or.inl rfl)
example : judgeRoundtrip .b64 exBytes (some (toText .b64 (Buf.ofBytes exBytes)))
    (pans (tryParseStr .b64 (toText .b64 (Buf.ofBytes exBytes))))
    (modelStable .b64 (tryParseStr .b64 (toText .b64 (Buf.ofBytes exBytes)))) = [] :=
  judgeRoundtrip_model_fixed .b64 2 rfl exBytes (by decide) (by decide)
example : judgeRoundtrip .big exBytes (some (toText .big (Buf.ofBytes exBytes)))
    (pans (tryParseStr .big (toText .big (Buf.ofBytes exBytes)))) true = [] :=
  judgeRoundtrip_model_partial .big exBytes (by decide) (by decide)
example : judgeRoundtrip .dyn exBytes (some (toText .dyn (Buf.ofBytes exBytes)))
    (pans (tryParseStr .dyn (toText .dyn (Buf.ofBytes exBytes))))
    (modelStable .dyn (tryParseStr .dyn (toText .dyn (Buf.ofBytes exBytes)))) = [] :=
  judgeRoundtrip_model .dyn exBytes (by decide) (by decide) (by decide)
example : judgeBytesApi exBytes (Buf.ofBytes exBytes).toBytes exBytes.reverse exBytes.reverse = [] :=
  judgeBytesApi_model exBytes (by decide)

/-- a valid length, an odd length, a multiple of 4 beyond `Bitstring`'s capacity -/
example : judgeTryLe .dyn exBytes (pans (liftOverflow (tryFromLeBytes .dyn exBytes))) = [] :=
  judgeTryLe_model .dyn (Or.inl rfl) exBytes (by decide)
example : judgeTryLe .dyn [1, 2, 3, 4, 5] (pans (liftOverflow (tryFromLeBytes .dyn [1, 2, 3, 4, 5]))) = [] :=
  judgeTryLe_model .dyn (Or.inl rfl) _ (by decide)
example : judgeTryLe .dyn (List.replicate 24 7) (pans (liftOverflow (tryFromLeBytes .dyn (List.replicate 24 7)))) = [] :=
  judgeTryLe_model .dyn (Or.inl rfl) _ (by decide)

/-- the hypothesis of `judgeConsts_model` for decimal128 -/
example : Ty.b128.fixedN = some 4 := rfl
/-- `i64::MIN` into decimal64 does not fit (19 digits): the fallible conversion answers `None` -/
example : (⟨true, 64⟩ : IntTy).contains (-9223372036854775808) = true := by decide
example : judgeFromInt .b64 ⟨true, 64⟩ (-9223372036854775808) (modelFromIntAns .b64 ⟨true, 64⟩ (-9223372036854775808)).1
    (modelFromIntAns .b64 ⟨true, 64⟩ (-9223372036854775808)).2.1 (modelFromIntAns .b64 ⟨true, 64⟩ (-9223372036854775808)).2.2 = [] :=
  judgeFromInt_model .b64 ⟨true, 64⟩ (by decide) _ (by decide)
/-- the `f64` `-2.5e-7` into `Bitstring128`, a NaN into `Bitstring32` (no contract needed) -/
example : judgeFromFloat .b128 binary64 0xBE90C6F7A0B5ED8D [45, 50, 46, 53, 101, 45, 55]
    (modelFromFloatAns .b128 binary64 0xBE90C6F7A0B5ED8D [45, 50, 46, 53, 101, 45, 55]).1
    (modelFromFloatAns .b128 binary64 0xBE90C6F7A0B5ED8D [45, 50, 46, 53, 101, 45, 55]).2.1
    (modelFromFloatAns .b128 binary64 0xBE90C6F7A0B5ED8D [45, 50, 46, 53, 101, 45, 55]).2.2 = [] :=
  judgeFromFloat_model .b128 binary64 (Or.inr rfl) _ (by decide) _
    (fun _ _ => ⟨_, _, _, _, C12.ryu_f64_sci.wide, fun _ h => nomatch h⟩)
example : judgeFromFloat .b32 binary32 0x7FC00000 [] (modelFromFloatAns .b32 binary32 0x7FC00000 []).1
    (modelFromFloatAns .b32 binary32 0x7FC00000 []).2.1 (modelFromFloatAns .b32 binary32 0x7FC00000 []).2.2 = [] :=
  judgeFromFloat_model .b32 binary32 (Or.inl rfl) _ (by decide) _ (fun h => nomatch (show binary32.isNan 0x7FC00000 = false from h))
/-- the hypotheses of `judgeToInt_big_huge_rejected` at its smallest instance, `k = 2147483649`, `n = 238609295` words -/
example : (2147483648 : Nat) < 2147483649 ∧ 2147483649 + 1 ≤ 9 * 238609295 - 2 := by decide

/-- three fragments `-1`, `.5`, `e3` -/
example : judgeParseFmt .b32 (C14.textCap .b32) [[45, 49], [46, 53], [101, 51]] "none"
    (pans (tryParse .b32 [[45, 49], [46, 53], [101, 51]] .none)) = [] :=
  judgeParseFmt_model .b32 _ "none" (by decide +kernel) .none (Or.inl rfl)
example : judgeParseFmt .b32 (some 32) [[45, 49], [46, 53]] "fail:1" (pans (tryParse .b32 [[45, 49], [46, 53]] (.failAt 1))) = [] :=
  judgeParseFmt_model_fail .b32 _ _ "fail:1" (by decide +kernel) 1 (by decide)

end Decstr.Props.Judged

#print axioms Decstr.Props.Judged.judgeParse_model
#print axioms Decstr.Props.Judged.judgeParseFmt_model
#print axioms Decstr.Props.Judged.judgeParseFmt_model_fail
#print axioms Decstr.Props.Judged.judgeFormat_model
#print axioms Decstr.Props.Judged.judgeRoundtrip_model_partial
#print axioms Decstr.Props.Judged.judgeRoundtrip_model
#print axioms Decstr.Props.Judged.judgeRoundtrip_model_fixed
#print axioms Decstr.Props.Judged.judgeReprint_model
#print axioms Decstr.Props.Judged.judgeClassify_model
#print axioms Decstr.Props.Judged.judgeToInt_model_partial
#print axioms Decstr.Props.Judged.judgeToInt_model
#print axioms Decstr.Props.Judged.judgeToInt_big_huge_rejected
#print axioms Decstr.Props.Judged.judgeFromInt_model
#print axioms Decstr.Props.Judged.judgeToFloat_model
#print axioms Decstr.Props.Judged.judgeFromFloat_model
#print axioms Decstr.Props.Judged.judgeBytesApi_model
#print axioms Decstr.Props.Judged.judgeTryLe_model
#print axioms Decstr.Props.Judged.judgeConsts_model
