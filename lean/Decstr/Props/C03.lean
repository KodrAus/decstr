import Decstr.Props.C02
import Decstr.Props.C04
/-!
# C03 — text ↔ bitstring round trip is lossless and canonicalising

An accepted numeral is stored as the canonical pattern of its datum (`stored`), and the text the formatter writes for a
pattern of `n` words is accepted again because what was written fits `n` words (`C03_reparse`); the statements of C03 are
read off these two.
-/
namespace Decstr.Props.C03
open Decstr.Model Decstr.Spec Decstr.Proofs

theorem stored (T : Ty) (txt : List Nat) (num : Numeral) (hp : parse txt = some num) (b : Buf)
    (h : tryParseStr T txt = .ok b) :
    ∃ n, WF b n ∧ b.bits = encode ⟨n⟩ num.datum ∧ decode ⟨n⟩ b.bits = num.datum ∧ (∀ w, T.fixedN = some w → n = w) ∧
      C02.Holds T n := by
  suffices key : ∃ n, WF b n ∧ b.bits = encode ⟨n⟩ num.datum ∧ decode ⟨n⟩ b.bits = num.datum ∧
      ∀ w, T.fixedN = some w → n = w by
    obtain ⟨n, hwf, h1, h2, h3⟩ := key
    refine ⟨n, hwf, h1, h2, h3, fun hi => ?_⟩
    -- a type with `i32` exponents has a capacity of at most 5 words, and the answer lies within it
    obtain ⟨cap, hcap, hc5⟩ := Ty.capN_of_expIsI32 hi
    have := C06.tryParseStr_len_cap T txt b h cap hcap
    have := hwf.len
    omega
  cases num with
  | finite s i fr ex =>
    have hout := C06.C01_tryParseStr_finite T txt s i fr ex hp
    rw [h] at hout
    obtain ⟨-, n, hn, rfl, hfit, hlt, hc, -, hw⟩ := hout.ok
    rw [datum_finite]
    exact ⟨n, ⟨hn, rfl, hlt⟩, rfl, (decode_encodeFin n hn s _ _ hc ((fitsB_iff _ _ _).1 hfit).2).1,
      fun w hf => by rw [hf] at hw; exact hw⟩
  | inf s =>
    rw [C06.C09_tryParseStr_inf T txt s hp] at h
    injection h with h; subst h
    obtain ⟨hdec, hlt⟩ := decode_encodeInf (C09.baseN T) (C09.baseN_pos T) s
    exact ⟨_, ⟨C09.baseN_pos T, rfl, hlt⟩, rfl, hdec, fun w hf => by simp [C09.baseN, hf]⟩
  | nan s g pl =>
    have hout := C06.C09_tryParseStr_nan T txt s g pl hp
    rw [h] at hout
    obtain ⟨n, rfl, hwf, hdec, -, hw⟩ := hout.ok
    exact ⟨n, hwf, rfl, hdec, fun w hf => by rw [hf] at hw; exact hw⟩

/-- what `try_parse_str (to_string b)` decodes to, for every type able to hold `b` -/
theorem C03_reparse (T : Ty) (b : Buf) (n : Nat) (h : WF b n) (hT : C02.Holds T n)
    (hcap : ∀ cap, T.capN = some cap → n ≤ cap) :
    ∃ b' n', tryParseStr T (toText T b) = .ok b' ∧ WF b' n' ∧ decode ⟨n'⟩ b'.bits = decode ⟨n⟩ b.bits ∧
      (∀ w, T.fixedN = some w → n' = w) ∧ b'.bits = encode ⟨n'⟩ (decode ⟨n⟩ b.bits) := by
  obtain ⟨num, hparse, hdatum, _, hcount⟩ := C02.C02_format T b n h hT
  -- the text is accepted: what was written fits `n` words, so it needs at most `n`, which is within the capacity
  have hok : ∃ b', tryParseStr T (toText T b) = .ok b' := by
    cases num with
    | finite s i fr ex =>
      rw [datum_finite] at hdatum
      obtain ⟨-, hq⟩ := decode_fin_bounds n h.pos b.bits _ _ _ hdatum.symm
      have hneed := (need_le_iff _ _ n h.pos).2 ((fitsB_iff ⟨n⟩ _ _).2 ⟨hcount, hq⟩)
      by_cases hi : T.expIsI32 = true
      · obtain ⟨cap, hc, -⟩ := Ty.capN_of_expIsI32 hi
        exact (C04.C04_accept_iff T cap hc _ s i fr ex hparse).2 (Nat.le_trans hneed (hcap cap hc))
      · obtain rfl : T = .big := Decidable.by_contra fun hne => hi ((Ty.expIsI32_iff_ne_big T).2 hne)
        exact C04.C04_big_total _ s i fr ex hparse
    | inf s => exact ⟨_, C06.C09_tryParseStr_inf T _ s hparse⟩
    | nan s g pl =>
      cases hr : tryParseStr T (toText T b) with
      | ok b' => exact ⟨b', rfl⟩
      | error e =>
        have hout := C06.C09_tryParseStr_nan T _ s g pl hparse
        rw [hr] at hout
        obtain ⟨-, cap, m, -, hc, hlt, -⟩ := hout.error
        have := (need_le_iff _ _ n h.pos).2 ((fitsB_none n ((pl.getD []).length + 1)).2 hcount)
        have := hcap cap hc
        omega
  obtain ⟨b', hr⟩ := hok
  obtain ⟨n', hwf, hbits, hdec, hfix, -⟩ := stored T _ num hparse b' hr
  exact ⟨b', n', hr, hwf, by rw [hdec, hdatum], hfix, by rw [hbits, hdatum]⟩

/-- **C03 (bits → text → bits, fixed-width types).** Formatting any pattern and parsing the text back with the same
    fixed-width type gives exactly the canonical form of the pattern (the pattern itself when it was canonical). -/
theorem C03_bits_text_bits (T : Ty) (w : Nat) (hw : T.fixedN = some w) (b : Buf) (h : WF b w) :
    tryParseStr T (toText T b) = .ok ⟨4 * w, canon ⟨w⟩ b.bits⟩ := by
  have hw4 := (Ty.fixedN_facts hw).2
  obtain ⟨b', n', hr, hwf, _, hfix, hbits⟩ := C03_reparse T b w h (fun _ => by omega)
    (fun cap hc => by rw [hw4.2] at hc; injection hc with hc; omega)
  obtain rfl := (hfix w hw).symm
  obtain ⟨len, bits⟩ := b'
  obtain rfl : len = 4 * w := hwf.len
  obtain rfl : bits = canon ⟨w⟩ b.bits := hbits
  exact hr

/-- **C03 (dynamic types).** `Bitstring` and `BigBitstring` read their own text back to the same sign, coefficient and
    exponent (same kind, sign and payload for the specials), possibly in a different width. -/
theorem C03_dyn (T : Ty) (b : Buf) (n : Nat) (h : WF b n) (hT : C02.Holds T n) (hcap : ∀ cap, T.capN = some cap → n ≤ cap) :
    ∃ b' n', tryParseStr T (toText T b) = .ok b' ∧ WF b' n' ∧ decode ⟨n'⟩ b'.bits = decode ⟨n⟩ b.bits := by
  obtain ⟨b', n', h1, h2, h3, _⟩ := C03_reparse T b n h hT hcap
  exact ⟨b', n', h1, h2, h3⟩

/-- **C03 (idempotent).** A second round trip changes nothing (fixed-width types). -/
theorem C03_idem (T : Ty) (w : Nat) (hw : T.fixedN = some w) (b : Buf) (h : WF b w) :
    tryParseStr T (toText T ⟨4 * w, canon ⟨w⟩ b.bits⟩) = .ok ⟨4 * w, canon ⟨w⟩ b.bits⟩ := by
  have hwf : WF ⟨4 * w, canon ⟨w⟩ b.bits⟩ w := ⟨h.pos, rfl, canon_lt w h.pos b.bits⟩
  rw [C03_bits_text_bits T w hw _ hwf]
  simp only [canon_idem w h.pos]

/-- **C03 (text → bits → text).** Parsing an accepted finite numeral and formatting the result gives text that denotes
    the same sign, coefficient and exponent as the input. -/
theorem C03_text_bits_text (T : Ty) (txt : List Nat) (s : Bool) (i fr : List Nat) (ex : Option (Bool × List Nat))
    (hp : Spec.parse txt = some (.finite s i fr ex)) (b : Buf) (hb : tryParseStr T txt = .ok b) :
    ∃ num, Spec.parse (toText T b) = some num ∧ num.datum = (Numeral.finite s i fr ex).datum := by
  have hout := C06.C01_tryParseStr_finite T txt s i fr ex hp
  rw [hb] at hout
  obtain ⟨n, -, hwf, -, hT, -, hdec⟩ := hout.ok_decode
  obtain ⟨num, h1, h2, _⟩ := C02.C02_format T b n hwf hT
  exact ⟨num, h1, by rw [h2, hdec, datum_finite]⟩

end Decstr.Props.C03
