import Decstr.Props.C10
import Decstr.Props.C13
/-!
# C05 — no public operation panics (what the model can say about it)

The pure model (`Decstr/Model/*.lean` without `Exec*`) is total: slice indexing, integer overflow and `debug_assert!`
inside the codec are not outcomes of it; those panic sites are explicit in the checked model `Decstr/Model/Exec*.lean` and
proved unreachable in Props/C05x.  This file is about the `expect`s of the API layer, where a `Result` from inside the library
is turned into a panic (the pure model's `.panic` answer): the integer and float conversions offered as `From` never fail
(`C10.C10_infallible`; `C12.C12_infallible_wide`, relative to the formatter's contract), `Bitstring32::to_f64` always has a
value, and the text of a primitive integer always parses (inside `C10.C10_from`).  The fallible entry points return
`Except`/`Option` in the model by construction.
-/
namespace Decstr.Props.C05
open Decstr.Model Decstr.Spec Decstr.Proofs

/-- integer conversions: the only panic the model can produce is the `expect` of a conversion offered as infallible,
    and that is unreachable for every value of the integer type -/
theorem C05_from_int (T : Ty) (I : IntTy) (hI : I.bits = 8 ∨ I.bits = 16 ∨ I.bits = 32 ∨ I.bits = 64 ∨ I.bits = 128)
    (v : Int) (hv : I.contains v = true) : fromInt T I v ≠ .panic :=
  C10.fromInt_ne_panic T I hI v hv

/-- `Bitstring32::to_f64` (the one infallible decimal → float conversion) -/
theorem C05_b32_to_f64 (b : Buf) (h : WF b 1) : ∃ bits, toFloat b binary64 = some bits := C13.C13_b32_total b h

end Decstr.Props.C05
