import Decstr.Proofs.Decode
/-!
# C08 — classification is a partition that follows the IEEE combination field

The six classifiers of the model are mask tests on the most significant byte; `Proofs.DecodeAux.cls_table` compares them,
on all 256 byte values, with the five combination bits, the signaling bit and the sign bit.  The partition is read off
that, and `Spec.decode` takes its case distinction from the same bits of the same byte in every width `32n`
(`Proofs.decode_last`).
-/
namespace Decstr.Props.C08
open Decstr.Model Decstr.Spec Decstr.Proofs

def modelCls (b : Buf) : Cls :=
  ⟨isSignNegative b, isFinite b, isInfinite b, isNan b, isQuietNan b, isSignalingNan b⟩

/-- **C08 (partition).** Exactly one of `is_finite`, `is_infinite`, `is_nan` holds, for every buffer. -/
theorem C08_partition (b : Buf) :
    (isFinite b = true ∧ isInfinite b = false ∧ isNan b = false) ∨
    (isFinite b = false ∧ isInfinite b = true ∧ isNan b = false) ∨
    (isFinite b = false ∧ isInfinite b = false ∧ isNan b = true) := by
  rw [isFinite_eq, isInfinite_eq, isNan_eq]
  by_cases h30 : b.last / 4 % 32 = 30
  · simp [h30]
  · by_cases h31 : b.last / 4 % 32 = 31
    · simp [h31]
    · simp [h30, h31]

/-- **C08 (NaN kinds).** `is_nan` holds iff exactly one of `is_quiet_nan` / `is_signaling_nan` holds. -/
theorem C08_nan_kinds (b : Buf) : isNan b = (isQuietNan b != isSignalingNan b) := by
  rw [isNan_eq, isQuietNan_eq, isSignalingNan_eq]
  by_cases h31 : b.last / 4 % 32 = 31
  · simp [h31]
  · simp [h31]

/-- The hypothesis of `C08_ieee` as that property is stated.  Everything else in the development says `Proofs.WF`
    (the same three fields); `Proofs.WF.toC08` converts. -/
structure WF (b : Buf) (n : Nat) : Prop where
  pos : 0 < n
  len : b.len = 4 * n
  lt : b.bits < 2 ^ (32 * n)

theorem _root_.Decstr.Proofs.WF.toC08 {b : Buf} {n : Nat} (h : Proofs.WF b n) : WF b n := ⟨h.pos, h.len, h.lt⟩

/-- the class `Spec.decode` assigns to a bit pattern -/
def clsOfDatum : Datum → Cls
  | .fin s _ _ => ⟨s, true, false, false, false, false⟩
  | .inf s => ⟨s, false, true, false, false, false⟩
  | .nan s g _ => ⟨s, false, false, true, !g, g⟩

/-- **C08 (IEEE).** For every width `32n` and every bit pattern, the six classifiers give exactly the answers
IEEE 754 assigns to the combination field (`11110` infinity, `11111` NaN with the next bit selecting
signaling, anything else finite) and the sign is the most significant bit — reserved and payload bits are ignored. -/
theorem C08_ieee (b : Buf) (n : Nat) (h : WF b n) : modelCls b = clsOfDatum (decode ⟨n⟩ b.bits) := by
  rw [decode_last b n ⟨h.pos, h.len, h.lt⟩, modelCls, isSignNegative_eq, isFinite_eq, isInfinite_eq, isNan_eq,
    isQuietNan_eq, isSignalingNan_eq]
  by_cases h30 : b.last / 4 % 32 = 30
  · rw [if_pos h30]; simp [clsOfDatum, h30]
  · by_cases h31 : b.last / 4 % 32 = 31
    · rw [if_neg h30, if_pos h31]; simp [clsOfDatum, h31]
    · rw [if_neg h30, if_neg h31]; simp [clsOfDatum, h30, h31]

theorem classes_of_decode (b : Buf) (n : Nat) (h : Proofs.WF b n) {D : Datum} (hd : decode ⟨n⟩ b.bits = D) :
    isSignNegative b = (clsOfDatum D).neg ∧ isFinite b = (clsOfDatum D).fin ∧
    isInfinite b = (clsOfDatum D).inf ∧ isNan b = (clsOfDatum D).nan := by
  rw [← hd, ← C08_ieee b n h.toC08]
  exact ⟨rfl, rfl, rfl, rfl⟩

/-- non-vacuity: a concrete non-canonical infinity (reserved bit set, payload bits set) at 64 bits -/
example : WF ⟨8, 0x7Bffffffffffffff⟩ 2 ∧ modelCls ⟨8, 0x7Bffffffffffffff⟩ = ⟨false, false, true, false, false, false⟩ := by
  refine ⟨⟨by decide, rfl, by decide⟩, by decide +kernel⟩

end Decstr.Props.C08
