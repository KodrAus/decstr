import Decstr.Proofs.Encode
import Decstr.Props.C07
/-!
# C01 / C04 / C17 — what the encoder produces from the parsed fields

`encodeFinite T neg digits exp` is everything `decimal_from_parsed` does after the text has been tokenised.  `digits` are
the written digits (ASCII, leading zeros kept), `q` the written exponent minus the number of fractional digits; for the
`i32`-exponent types the model passes the *saturated* exponent, as the code does.  The link from a text to these fields is
the parser (C06).
-/
namespace Decstr.Props.C01
open Decstr.Model Decstr.Spec Decstr.Proofs

/-- the exponent the code hands on: saturated `i32` arithmetic for the four bounded types, exact for `BigBitstring` -/
def passed (T : Ty) (q : Int) : Int := if T.expIsI32 then satI32 q else q

-- the proof does not use `hn`
set_option linter.unusedVariables false in
theorem precision_zero (n : Nat) (hn : 0 < n) : (Buf.zero (4 * n)).precision = 9 * n - 2 :=
  Buf.precision_of_len rfl

theorem encodeFinite_of_alloc {T : Ty} {neg : Bool} {ds : List Nat} {e : Int} {n : Nat}
    (h : T.withPrecision ds.length (some e) = .ok (Buf.zero (4 * n))) :
    encodeFinite T neg ds e = .ok (encodeCombinationFinite (encodeSignificand (Buf.zero (4 * n)) ds).1 neg
      (biasOf (32 * n) (9 * n - 2) + e).toNat (encodeSignificand (Buf.zero (4 * n)) ds).2) := by
  have hl : (encodeSignificand (Buf.zero (4 * n)) ds).1.len = 4 * n := encodeSignificand_len _ _
  simp only [encodeFinite, h, Buf.widthBits_of_len hl, Buf.precision_of_len hl]

/-- **C01 / C04 / C07 / C17 (finite numerals, all types, all widths).**
* If the type gives a buffer, its width `32n` is the type's own (fixed types), the smallest sufficient (`Bitstring`),
  or at most one step above that and exactly minimal up to 160 bits (`BigBitstring`); the bytes are **exactly**
  `Spec.encodeFin` of the written sign, the written digits read as an integer and `q`: nothing rounded or normalised.
* Otherwise the answer is an overflow error (never a panic, an infinity or a clamped value) that names the type's
  capacity and a needed width that is larger, a multiple of 4 bytes and sufficient.

`hq` is what `decimal_from_parsed` guarantees for the bounded types: the written exponent is an `i32` and at most `d`
fractional digits are subtracted from it. -/
theorem C01_encodeFinite (T : Ty) (neg : Bool) (ds : List Nat) (hds : AsciiDigits ds) (hne : ds ≠ []) (q : Int)
    (hq : T.expIsI32 = true → i32Min - ds.length ≤ q ∧ q ≤ i32Max + ds.length) :
    match encodeFinite T neg ds (passed T q) with
    | .ok b => ∃ n, 0 < n ∧ b = ⟨4 * n, encodeFin ⟨n⟩ neg (valOf ds) q⟩ ∧ (Fmt.mk n).fitsB ds.length (some q) = true ∧
        b.bits < 2 ^ (32 * n) ∧ valOf ds < 10 ^ (Fmt.mk n).p ∧ (∀ cap, T.capN = some cap → n ≤ cap) ∧
        (match T.fixedN with
         | some w => n = w
         | none => need ds.length (some q) ≤ n ∧ n ≤ need ds.length (some q) + 1 ∧
                   (need ds.length (some q) ≤ 5 → n = need ds.length (some q)))
    | .error err => ∃ cap n, T.capN = some cap ∧ cap < need ds.length (some q) ∧
        err = .wouldOverflow (4 * cap) (4 * n) ∧ cap < n ∧ (Fmt.mk n).fitsB ds.length (some q) = true := by
  have hd : 0 < ds.length := List.length_pos_iff.mpr hne
  cases hr : T.withPrecision ds.length (some (passed T q)) with
  | error err =>
    obtain ⟨cap, n, hc, hlt, he, hcn, hfit, hb⟩ := C07.C07_alloc_error hd hr
    have hi := Ty.expIsI32_of_capN hc
    have hc5 := (Ty.capN_bounds hc).2
    simp only [passed, hi, if_true] at hlt hb
    obtain ⟨hlo, hhi⟩ := hq hi
    simp only [encodeFinite, hr]
    -- the width named is the one computed from the saturated exponent; it is sufficient for the true exponent
    exact ⟨cap, n, hc, Nat.lt_of_not_le fun h => absurd ((satI32_need_le q ds.length cap (by omega)).1 h) (by omega),
      he, hcn, satI32_sufficient q ds.length hd hlo hhi n hb⟩
  | ok b0 =>
    obtain ⟨n, rfl, hn, hfit, hcapn, hw⟩ := C07.C07_alloc_ok hd hr
    -- the exponent passed on equals the true exponent whenever a buffer was given
    have hqq : passed T q = q := by
      unfold passed at hfit ⊢
      split
      · next hi =>
        have hn13 : n ≤ 13 := Nat.le_trans (Ty.le_five_of_capN hcapn hi) (by decide)
        rw [if_pos hi, fitsB_satI32 q hn13] at hfit
        exact satI32_eq_of_need_le q ds.length n hn13 ((need_le_iff _ _ n hn).2 hfit)
      · rfl
    rw [hqq] at hr hfit hw ⊢
    obtain ⟨hlen, hq⟩ := (fitsB_iff _ _ _).1 hfit
    have hval : valOf ds < 10 ^ (Fmt.mk n).p := valOf_lt_of_le hds hlen
    rw [encodeFinite_of_alloc hr, encode_finite_bits n hn neg ds hds hne hlen q hq]
    exact ⟨n, hn, rfl, hfit, encodeFin_lt n hn neg _ hval q hq, hval, hcapn, hw⟩

end Decstr.Props.C01
