import Decstr.Proofs.Widths
/-!
# C07 — dynamic types pick the smallest sufficient width; never under-provision
(and the width facts behind C04 and C17)

`Ty.withPrecision T d e` is the buffer allocation of every finite number and of every NaN with a payload
(`D::try_with_at_least_precision`; infinities and payload-free NaNs ask for 4 bytes directly): it decides the width of
the result, or the overflow error.
-/
namespace Decstr.Props.C07
open Decstr.Model Decstr.Spec Decstr.Proofs

/-- the five allocators are one: refuse above the capacity, else the fixed width, or the requested one -/
theorem withAtLeastBytes_eq (T : Ty) (bytes : Nat) :
    T.withAtLeastBytes bytes =
      match T.capN with
      | some cap => if bytes > 4 * cap then .error (.wouldOverflow (4 * cap) bytes)
          else .ok (Buf.zero (match T.fixedN with | some w => 4 * w | none => bytes))
      | none => .ok (Buf.zero bytes) := by
  cases T <;> rfl

theorem withAtLeastBytes_ok {T : Ty} {bytes : Nat} {b : Buf} (h : T.withAtLeastBytes bytes = .ok b) :
    b = Buf.zero (match T.fixedN with | some w => 4 * w | none => bytes) ∧ ∀ cap, T.capN = some cap → bytes ≤ 4 * cap := by
  cases T
  case big => cases h; exact ⟨rfl, nofun⟩
  all_goals
    rw [Ty.withAtLeastBytes] at h
    split at h
    · cases h
    · cases h; exact ⟨rfl, fun c hc => by cases hc; exact Nat.le_of_not_lt ‹_›⟩

theorem alloc_len_cap (T : Ty) (k : Nat) (b : Buf) (h : T.withAtLeastBytes k = .ok b) (cap : Nat) (hc : T.capN = some cap) :
    b.len ≤ 4 * cap := by
  obtain ⟨rfl, hcap⟩ := withAtLeastBytes_ok h
  cases hf : T.fixedN with
  | none => exact hcap cap hc
  | some w => rw [(Ty.fixedN_facts hf).2.2] at hc; cases hc; exact Nat.le_refl _

/-- **C07 (a buffer was allocated).** -/
theorem C07_alloc_ok {T : Ty} {d : Nat} (hd : 0 < d) {e : Option Int} {b : Buf} (h : T.withPrecision d e = .ok b) :
    ∃ n, b = Buf.zero (4 * n) ∧ 0 < n ∧ (Fmt.mk n).fitsB d e = true ∧ (∀ cap, T.capN = some cap → n ≤ cap) ∧
      (match T.fixedN with
       | some w => n = w
       | none => need d e ≤ n ∧ n ≤ need d e + 1 ∧ (need d e ≤ 5 → n = need d e)) := by
  obtain ⟨n, h1, h2, h3, h4⟩ := bytesForPrecision_spec d hd e
  rw [Ty.withPrecision, h1] at h
  obtain ⟨rfl, hcap⟩ := withAtLeastBytes_ok h
  cases hf : T.fixedN with
  | none => exact ⟨n, rfl, h2, h3, fun c hc => by have := hcap c hc; omega, h4⟩
  | some w =>
    -- the fixed width is the capacity, so `n ≤ w`, and what fits `n` words fits `w`
    obtain ⟨hw0, -, hc⟩ := Ty.fixedN_facts hf
    have := hcap w hc
    exact ⟨w, rfl, hw0, fits_mono n w d e h2 (by omega) h3, fun c h' => by rw [hc] at h'; cases h'; exact Nat.le_refl _, rfl⟩

/-- **C17 (a refusal is truthful)**, and justified: `need d e` exceeds the capacity (up to 5 words the request is exactly
    `need d e`). -/
theorem C07_alloc_error {T : Ty} {d : Nat} (hd : 0 < d) {e : Option Int} {err : OverflowErr}
    (h : T.withPrecision d e = .error err) :
    ∃ cap n, T.capN = some cap ∧ cap < need d e ∧ err = .wouldOverflow (4 * cap) (4 * n) ∧ cap < n ∧
      (Fmt.mk n).fitsB d e = true ∧ bytesForPrecision d e = 4 * n := by
  obtain ⟨n, h1, -, h3, -⟩ := bytesForPrecision_spec d hd e
  rw [Ty.withPrecision, withAtLeastBytes_eq, h1] at h
  cases hc : T.capN with
  | none => rw [hc] at h; cases h
  | some cap =>
    rw [hc] at h
    have hc5 := (Ty.capN_bounds hc).2
    simp only at h
    split at h
    · cases h
      refine ⟨cap, n, rfl, ?_, rfl, by omega, h3, h1⟩
      exact Nat.lt_of_not_le fun hle => absurd ((bytesForPrecision_le_iff d hd e cap hc5).2 hle) (by omega)
    · cases h

/-- **C07 / C04 / C17 (allocation).** For every digit count `d ≥ 1` and every exponent (or none, for NaN payloads):

* a fixed-width type allocates its own width iff the smallest sufficient width `need d e` is within it;
* `Bitstring` allocates exactly `need d e` words iff `need d e ≤ 5` (160 bits);
* `BigBitstring` always allocates, a width that is sufficient, at most one 32-bit step above `need d e`,
  and exactly `need d e` up to 160 bits;
* a refusal names the type's capacity and a needed width that is larger, a multiple of 4 bytes and sufficient. -/
theorem C07_alloc (T : Ty) (d : Nat) (hd : 0 < d) (e : Option Int) :
    match T.withPrecision d e with
    | .ok b => ∃ n, b = Buf.zero (4 * n) ∧ 0 < n ∧ (Fmt.mk n).fitsB d e = true ∧ (∀ cap, T.capN = some cap → n ≤ cap) ∧
        (match T.fixedN with
         | some w => n = w
         | none => need d e ≤ n ∧ n ≤ need d e + 1 ∧ (need d e ≤ 5 → n = need d e))
    | .error err => ∃ cap n, T.capN = some cap ∧ cap < need d e ∧ err = .wouldOverflow (4 * cap) (4 * n) ∧
        cap < n ∧ (Fmt.mk n).fitsB d e = true := by
  cases hr : T.withPrecision d e with
  | ok b => exact C07_alloc_ok hd hr
  | error err =>
    obtain ⟨cap, n, h1, h2, h3, h4, h5, -⟩ := C07_alloc_error hd hr
    exact ⟨cap, n, h1, h2, h3, h4, h5⟩

/-- **C07 (Bitstring).** `Bitstring` fails only when 160 bits do not suffice. -/
theorem C07_bitstring_ok_iff (d : Nat) (hd : 0 < d) (e : Option Int) :
    (∃ b, Ty.dyn.withPrecision d e = .ok b) ↔ need d e ≤ 5 := by
  constructor
  · rintro ⟨b, hb⟩
    obtain ⟨n, _, _, _, hcap, h4, _⟩ := C07_alloc_ok hd hb
    exact Nat.le_trans h4 (hcap 5 rfl)
  · intro hle
    cases hr : Ty.dyn.withPrecision d e with
    | ok b => exact ⟨b, rfl⟩
    | error err =>
      obtain ⟨cap, n, hc, hlt, _⟩ := C07_alloc_error hd hr
      cases hc
      omega

/-- **C07 (BigBitstring).** `BigBitstring` never refuses. -/
theorem C07_big_total (d : Nat) (e : Option Int) : ∃ b, Ty.big.withPrecision d e = .ok b :=
  ⟨_, rfl⟩

/-- the outcomes are attained: exactly minimal (1e24534 → 160 bits, 44 digits → 192 bits), one step above (52 digits →
    224 bits, need 192), and `Bitstring` refusing what needs 192 bits -/
example : Ty.big.withPrecision 1 (some 24534) = .ok (Buf.zero 20) ∧ need 1 (some 24534) = 5 := ⟨by rfl, by decide⟩
example : Ty.big.withPrecision 44 (some 0) = .ok (Buf.zero 24) ∧ need 44 (some 0) = 6 := ⟨by rfl, by decide⟩
example : Ty.big.withPrecision 52 (some 0) = .ok (Buf.zero 28) ∧ need 52 (some 0) = 6 := ⟨by rfl, by decide⟩
example : Ty.dyn.withPrecision 1 (some 24535) = .error (.wouldOverflow 20 24) := by rfl

end Decstr.Props.C07
