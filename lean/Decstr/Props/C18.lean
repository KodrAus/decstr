import Decstr.Proofs.Encode
import Decstr.Props.C07
/-!
# C18 — published limits are the true extremes of each fixed-width format

`encodeMax`/`encodeMin` model `max()`/`min()`/`min_positive()`; the byte constants `MAX`, `MIN`, `MIN_POSITIVE`, `DIGITS`,
`MIN_10_EXP`, `MAX_10_EXP` of the implementation are tied to them by the correspondence check (`consts` requests) and by
`Generated.Consts`, which `check` has `tools/gen_consts.py` write from the source on every run (into its work directory,
not this tree) and proves equal to the specification's encoding (DESIGN §10.12).
Numeric comparison is exact: both sides are scaled by `10^bias`.
-/
namespace Decstr.Props.C18
open Decstr.Model Decstr.Spec Decstr.Proofs

/-- `|value| · 10^bias` of a finite datum of the format — a natural number, so comparisons are exact -/
def scaled (f : Fmt) (c : Nat) (e : Int) : Nat := c * 10 ^ (e + f.bias).toNat

/-- **C18 (functions).** `max()`, `min()`, `min_positive()` are the canonical encodings of `±(10^p − 1)·10^qmax`
    and `1·10^qmin`, for every width. -/
theorem C18_fns (n : Nat) (hn : 0 < n) :
    encodeMax (4 * n) false = ⟨4 * n, encodeFin ⟨n⟩ false (10 ^ (Fmt.mk n).p - 1) (Fmt.mk n).qmax⟩ ∧
    encodeMax (4 * n) true = ⟨4 * n, encodeFin ⟨n⟩ true (10 ^ (Fmt.mk n).p - 1) (Fmt.mk n).qmax⟩ ∧
    encodeMin (4 * n) false = ⟨4 * n, encodeFin ⟨n⟩ false 1 (Fmt.mk n).qmin⟩ :=
  ⟨encodeMax_spec n hn false, encodeMax_spec n hn true, encodeMin_spec n hn false⟩

theorem limits_spec (n : Nat) (hn : 0 < n) (s : Bool) :
    (decode ⟨n⟩ (encodeFin ⟨n⟩ s (10 ^ (Fmt.mk n).p - 1) (Fmt.mk n).qmax) = .fin s (10 ^ (Fmt.mk n).p - 1) (Fmt.mk n).qmax ∧
      encodeFin ⟨n⟩ s (10 ^ (Fmt.mk n).p - 1) (Fmt.mk n).qmax < 2 ^ (32 * n)) ∧
    (decode ⟨n⟩ (encodeFin ⟨n⟩ false 1 (Fmt.mk n).qmin) = .fin false 1 (Fmt.mk n).qmin ∧
      encodeFin ⟨n⟩ false 1 (Fmt.mk n).qmin < 2 ^ (32 * n)) := by
  have hpos : 0 < 10 ^ (Fmt.mk n).p := Nat.pow_pos (by decide)
  have h1 : (1 : Nat) < 10 ^ (Fmt.mk n).p := Nat.one_lt_pow (by simp only [Fmt.p]; omega) (by decide)
  exact ⟨decode_encodeFin n hn s _ _ (by omega) ⟨qmin_le_qmax n, Int.le_refl _⟩,
    decode_encodeFin n hn false 1 _ h1 ⟨Int.le_refl _, qmin_le_qmax n⟩⟩

theorem limits_wf (n : Nat) (hn : 0 < n) (s : Bool) :
    WF ⟨4 * n, encodeFin ⟨n⟩ s (10 ^ (Fmt.mk n).p - 1) (Fmt.mk n).qmax⟩ n ∧ WF ⟨4 * n, encodeFin ⟨n⟩ false 1 (Fmt.mk n).qmin⟩ n :=
  ⟨⟨hn, rfl, (limits_spec n hn s).1.2⟩, ⟨hn, rfl, (limits_spec n hn s).2.2⟩⟩

theorem C18_decode_limits (n : Nat) (hn : 0 < n) :
    decode ⟨n⟩ (encodeMax (4 * n) false).bits = .fin false (10 ^ (Fmt.mk n).p - 1) (Fmt.mk n).qmax ∧
    decode ⟨n⟩ (encodeMax (4 * n) true).bits = .fin true (10 ^ (Fmt.mk n).p - 1) (Fmt.mk n).qmax ∧
    decode ⟨n⟩ (encodeMin (4 * n) false).bits = .fin false 1 (Fmt.mk n).qmin := by
  obtain ⟨a, b, c⟩ := C18_fns n hn
  rw [a, b, c]
  exact ⟨(limits_spec n hn false).1.1, (limits_spec n hn true).1.1, (limits_spec n hn false).2.1⟩

/-- **C18 (extremes).** Every finite value of the format — any bit pattern, canonical or not — has magnitude at most
    that of `MAX` (`MIN = −MAX`), and every non-zero one has magnitude at least that of `MIN_POSITIVE`. -/
theorem C18_extremes (n : Nat) (hn : 0 < n) (N : Nat) (s : Bool) (c : Nat) (e : Int) (h : decode ⟨n⟩ N = .fin s c e) :
    scaled ⟨n⟩ c e ≤ scaled ⟨n⟩ (10 ^ (Fmt.mk n).p - 1) (Fmt.mk n).qmax ∧
    (c ≠ 0 → scaled ⟨n⟩ 1 (Fmt.mk n).qmin ≤ scaled ⟨n⟩ c e) := by
  obtain ⟨hc, h1, h2⟩ := decode_fin_bounds n hn N s c e h
  unfold scaled
  constructor
  · apply Nat.mul_le_mul (by omega)
    apply Nat.pow_le_pow_right (by decide)
    simp only [Fmt.qmin] at h1; omega
  · intro hc0
    rw [show (Fmt.mk n).qmin + ((Fmt.mk n).bias : Int) = 0 from Int.add_left_neg _]
    simp only [Int.toNat_zero, Nat.pow_zero, Nat.mul_one]
    exact Nat.mul_pos (Nat.pos_of_ne_zero hc0) (Nat.pow_pos (by decide))

/-- **C18 (exponent limits).** An integer numeral of `DIGITS = p` digits is given a buffer by a fixed-width type
    exactly when its exponent lies in `[MIN_10_EXP, MAX_10_EXP] = [qmin, qmax]`: the constants describe the boundary
    the parser enforces. -/
theorem C18_exp (T : Ty) (w : Nat) (hw : T.fixedN = some w) (e : Int) :
    (∃ b, T.withPrecision (Fmt.mk w).p (some e) = .ok b) ↔ ((Fmt.mk w).qmin ≤ e ∧ e ≤ (Fmt.mk w).qmax) := by
  have hwp := Ty.fixedN_facts hw
  have hd : 0 < (Fmt.mk w).p := by simp only [Fmt.p]; omega
  have hfit : (Fmt.mk w).fitsB (Fmt.mk w).p (some e) = true ↔ ((Fmt.mk w).qmin ≤ e ∧ e ≤ (Fmt.mk w).qmax) := by
    rw [fitsB_iff]; exact and_iff_right (Nat.le_refl _)
  rw [← hfit, ← need_le_iff _ _ w hwp.1]
  constructor
  · rintro ⟨b, hb⟩
    obtain ⟨n, _, hn0, hf, _, hm⟩ := C07.C07_alloc_ok hd hb
    rw [hw] at hm
    subst hm
    exact (need_le_iff _ _ n hn0).2 hf
  · intro hle
    cases hr : T.withPrecision (Fmt.mk w).p (some e) with
    | ok b => exact ⟨b, rfl⟩
    | error err =>
      obtain ⟨cap, m, hc, hlt, _⟩ := C07.C07_alloc_error hd hr
      rw [hwp.2.2] at hc
      injection hc with hc
      omega

/-- non-vacuity: decimal32 `MAX = 9999999e90`, bytes `FF FC F3 77` -/
example : (encodeMax 4 false).toBytes = [0xFF, 0xFC, 0xF3, 0x77] := by decide +kernel

end Decstr.Props.C18
