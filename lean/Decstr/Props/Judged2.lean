import Decstr.Props.Judged
import Mathlib.Tactic.Ring
import Mathlib.Tactic.Positivity
import Mathlib.Algebra.Order.Field.Power
/-!
# Judged2 — the oracle's additional judgements accept every answer of the model

`judgeGrammarReject`, `judgeClassAgree` and `judgeWithinLimits` (Spec/Judge.lean, "Additional judgements") each tag a
clause of a property that the other rules judge under another property's tag.  As in `Judged.lean`, each returns no
complaint on the answer the model gives; `leScaled` is the exact comparison it is meant to be; the examples show that the
judgements are not vacuous.
-/
namespace Decstr.Props.Judged2
open Decstr.Model Decstr.Spec Decstr.Proofs Decstr.Props.Judged

theorem judgeGrammarReject_overflow (txt : List Nat) (streaming : Bool) (oe : OverflowErr) :
    judgeGrammarReject txt streaming (.err (errFacts (.overflow oe))) = [] := by
  unfold judgeGrammarReject
  cases parse txt with
  | none => rfl
  | some num => cases oe <;> simp [errFacts]

theorem tryParseStr_grammatical (T : Ty) (txt : List Nat) (h : (parse txt).isSome = true) :
    (∃ b, tryParseStr T txt = .ok b) ∨ (∃ oe, tryParseStr T txt = .error (.overflow oe)) := by
  obtain ⟨p, hps⟩ := (C06.C06_accepts_iff txt).2 h
  cases hf : fromParsed T p with
  | ok b => exact Or.inl ⟨b, by simp only [tryParseStr, hps, hf, liftOverflow]⟩
  | error oe => exact Or.inr ⟨oe, by simp only [tryParseStr, hps, hf, liftOverflow]⟩

theorem judgeGrammarReject_str (T : Ty) (txt : List Nat) (streaming : Bool) :
    judgeGrammarReject txt streaming (pans (tryParseStr T txt)) = [] := by
  cases hp : parse txt with
  | none => simp only [judgeGrammarReject.eq_def, hp]
  | some num =>
    rcases tryParseStr_grammatical T txt (by rw [hp]; rfl) with ⟨b, hb⟩ | ⟨oe, hoe⟩
    · rw [hb]; simp only [pans, judgeGrammarReject.eq_def, hp]
    · rw [hoe]; exact judgeGrammarReject_overflow txt streaming oe

/-- **C06 (string entry point)**: every `parse_str` request -/
theorem judgeGrammarReject_model (T : Ty) (txt : List Nat) :
    judgeGrammarReject txt false (pans (tryParseStr T txt)) = [] :=
  judgeGrammarReject_str T txt false

/-- **C06 (streaming entry point)**: every `parse_fmt` request whose source does not report failure.  No hypothesis about
    the text capacity: "buffer too small" is an answer the rule permits to the streaming entry point. -/
theorem judgeGrammarReject_model_fmt (T : Ty) (frags : List (List Nat)) (fault : Fault)
    (hF : fault = .none ∨ fault = .swallow) :
    judgeGrammarReject frags.flatten true (pans (tryParse T frags fault)) = [] := by
  rcases C14.tryParse_quiet T frags hF with h | ⟨h, _⟩
  · rw [h]; exact judgeGrammarReject_str T _ true
  · rw [h]
    simp only [pans, errFacts, judgeGrammarReject.eq_def]
    cases parse frags.flatten with
    | none => rfl
    | some num => exact (chk_eq_nil ..).2 (by decide)

theorem judgeClassAgree_nil (bytes : List Nat) : judgeClassAgree bytes [] = [] := by
  unfold judgeClassAgree
  split <;> rfl

/-- **C08 / C11** (the four bounded types) -/
theorem judgeClassAgree_toInt_model (T : Ty) (hT : T ≠ .big) (bytes : List Nat) (h : T.holds bytes.length = true)
    (hb : ∀ x ∈ bytes, x < 256) (I : IntTy) (hI : I.bits ≤ 128) :
    judgeClassAgree bytes (judgeToInt bytes I (oans (toInt T (Buf.ofBytes bytes) I))) = [] := by
  rw [judgeToInt_model T hT bytes h hb I hI]
  exact judgeClassAgree_nil bytes

/-- **C08 / C11** (all five types, buffers below 2^29 bytes) -/
theorem judgeClassAgree_toInt_model_partial (T : Ty) (bytes : List Nat) (h : T.holds bytes.length = true)
    (hb : ∀ x ∈ bytes, x < 256) (I : IntTy) (hI : I.bits ≤ 128) (hlen : bytes.length < 2 ^ 29) :
    judgeClassAgree bytes (judgeToInt bytes I (oans (toInt T (Buf.ofBytes bytes) I))) = [] := by
  rw [judgeToInt_model_partial T bytes h hb I hI hlen]
  exact judgeClassAgree_nil bytes

/-- **C08 / C13** -/
theorem judgeClassAgree_toFloat_model (T : Ty) (bytes : List Nat) (h : T.holds bytes.length = true)
    (hb : ∀ x ∈ bytes, x < 256) (B : BinFmt) (hB : B = binary32 ∨ B = binary64) :
    judgeClassAgree bytes (judgeToFloat T bytes B (modelToFloatAns T B (toFloat (Buf.ofBytes bytes) B))) = [] := by
  rw [judgeToFloat_model T bytes h hb B hB]
  exact judgeClassAgree_nil bytes

theorem pow_digits10_pred_le (m : Nat) (hm : 0 < m) : 10 ^ (digits10 m - 1) ≤ m := by
  by_cases hd : digits10 m - 1 = 0
  · rw [hd]; exact hm
  · apply Nat.le_of_not_lt
    intro hlt
    have := (Nat.length_toDigits_le_iff (b := 10) (n := m) (by decide) (Nat.pos_of_ne_zero hd)).2 hlt
    simp only [digits10] at hd this
    omega

private theorem scaled_le (a b ka kb : Nat) (x : Int) :
    (a : ℚ) * 10 ^ (x + ka) ≤ (b : ℚ) * 10 ^ (x + kb) ↔ a * 10 ^ ka ≤ b * 10 ^ kb := by
  have h10 : (0 : ℚ) < 10 := by norm_num
  rw [zpow_add₀ h10.ne', zpow_add₀ h10.ne', zpow_natCast, zpow_natCast, mul_left_comm,
    mul_left_comm (b : ℚ), mul_le_mul_iff_of_pos_left (zpow_pos h10 x)]
  norm_cast

/-- **`leScaled` decides `c·10^e ≤ m·10^q` exactly**, over the rationals. -/
theorem leScaled_iff (c m : Nat) (e q : Int) :
    leScaled c e m q = true ↔ (c : ℚ) * 10 ^ e ≤ (m : ℚ) * 10 ^ q := by
  unfold leScaled
  by_cases hc : c = 0
  · subst hc
    simp only [if_true, true_iff, Nat.cast_zero, zero_mul]
    positivity
  by_cases hm : m = 0
  · subst hm
    simp only [hc, if_false, if_true, Nat.cast_zero, zero_mul, Bool.false_eq_true, false_iff, not_le]
    have : (0 : ℚ) < c := by exact_mod_cast Nat.pos_of_ne_zero hc
    positivity
  simp only [hc, hm, if_false]
  by_cases he : e ≥ q
  · obtain ⟨k, rfl⟩ := Int.le.dest he
    have := scaled_le c m k 0 q
    simp only [Nat.cast_zero, add_zero, pow_zero, mul_one] at this
    simp only [he, if_true, add_sub_cancel_left, Int.toNat_natCast, this]
    by_cases hk : k > digits10 m
    · simpa [hk] using lt_mul_pow_of_digits10_lt (Nat.pos_of_ne_zero hc) hk
    · simp [hk]
  · obtain ⟨k, rfl⟩ := Int.le.dest (Int.le_of_lt (Int.not_le.1 he))
    have := scaled_le c m 0 k e
    simp only [Nat.cast_zero, add_zero, pow_zero, mul_one] at this
    simp only [he, if_false, add_sub_cancel_left, Int.toNat_natCast, this]
    by_cases hk : k > digits10 c
    · simpa [hk] using Nat.le_of_lt (lt_mul_pow_of_digits10_lt (Nat.pos_of_ne_zero hm) hk)
    · simp [hk]
theorem leScaled_mono (c m : Nat) (e q : Int) (hcm : c ≤ m) (heq : e ≤ q) : leScaled c e m q = true := by
  rw [leScaled_iff]
  have h1 : (c : ℚ) ≤ m := by exact_mod_cast hcm
  have h2 : (10 : ℚ) ^ e ≤ 10 ^ q := zpow_le_zpow_right₀ (by norm_num) heq
  have h3 : (0 : ℚ) ≤ 10 ^ e := by positivity
  have h4 : (0 : ℚ) ≤ m := by positivity
  exact mul_le_mul h1 h2 h3 h4

/-- **C18**: the `Display` text of every bit pattern of a fixed-width type -/
theorem judgeWithinLimits_model (T : Ty) (w : Nat) (hT : T.fixedN = some w) (bytes : List Nat)
    (hlen : bytes.length = 4 * w) (hb : ∀ x ∈ bytes, x < 256) :
    judgeWithinLimits T (toText T (Buf.ofBytes bytes)) = [] := by
  have hw := Ty.fixedN_facts hT
  have hwf : WF (Buf.ofBytes bytes) w := WF.ofBytes bytes w hw.1 hlen hb
  obtain ⟨num, hparse, hdatum, _⟩ := C02.C02_format T _ w hwf (fun _ => by omega)
  unfold judgeWithinLimits
  rw [hT, hparse]
  cases num with
  | inf s => rfl
  | nan s g pl => rfl
  | finite s i fr ex =>
    rw [datum_finite] at hdatum
    obtain ⟨hc, h1, h2⟩ := decode_fin_bounds w hw.1 _ s _ _ hdatum.symm
    simp only [List.append_eq_nil_iff, chk_eq_nil, Bool.or_eq_true, beq_iff_eq]
    refine ⟨leScaled_mono _ _ _ _ (Nat.le_sub_one_of_lt hc) h2, ?_⟩
    by_cases hc0 : ofDigits (i ++ fr) = 0
    · exact .inl hc0
    · exact .inr (leScaled_mono 1 _ _ _ (Nat.pos_of_ne_zero hc0) h1)

/-- `1.5` answered "invalid character": a wrongful rejection -/
example : judgeGrammarReject [49, 46, 53] false (.err ⟨"char", 46, 0, 0⟩) ≠ [] := by decide +kernel
/-- … and "buffer too small" from the string entry point, which has no buffer -/
example : judgeGrammarReject [49, 46, 53] false (.err ⟨"buffer", 0, 0, 0⟩) ≠ [] := by decide +kernel
/-- the same answer is permitted to the streaming entry point; an overflow error to both -/
example : judgeGrammarReject [49, 46, 53] true (.err ⟨"buffer", 0, 0, 0⟩) = [] ∧
    judgeGrammarReject [49, 46, 53] false (.err ⟨"overflow", 4, 8, 0⟩) = [] := by decide +kernel

/-- `9999999e91` is above decimal32's MAX (`9999999e90`); `1e-102` is below its MIN_POSITIVE (`1e-101`) -/
example : judgeWithinLimits .b32 [57, 57, 57, 57, 57, 57, 57, 101, 57, 49] ≠ [] := by decide +kernel
example : judgeWithinLimits .b32 [49, 101, 45, 49, 48, 50] ≠ [] := by decide +kernel
/-- the limits themselves are accepted -/
example : judgeWithinLimits .b32 [57, 57, 57, 57, 57, 57, 57, 101, 57, 48] = [] ∧
    judgeWithinLimits .b32 [49, 101, 45, 49, 48, 49] = [] := by decide +kernel

/-- a complaint about the conversion of an infinity (decimal32 `78 00 00 00`, little-endian) is also a C08 complaint -/
example : judgeClassAgree [0, 0, 0, 0x78] (judgeToInt [0, 0, 0, 0x78] ⟨true, 32⟩ (.some 0)) ≠ [] := by decide +kernel

example : judgeGrammarReject (List.replicate 45 55) false (pans (tryParseStr .dyn (List.replicate 45 55))) = [] :=
  judgeGrammarReject_model _ _
example : judgeGrammarReject [[45, 49], [46, 53], [101, 51]].flatten true
    (pans (tryParse .b32 [[45, 49], [46, 53], [101, 51]] .swallow)) = [] :=
  judgeGrammarReject_model_fmt _ _ _ (Or.inr rfl)
example : judgeWithinLimits .b64 (toText .b64 (Buf.ofBytes exBytes)) = [] :=
  judgeWithinLimits_model .b64 2 rfl exBytes (by decide) (by decide)

end Decstr.Props.Judged2
