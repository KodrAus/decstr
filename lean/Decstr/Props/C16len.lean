import Decstr.Props.C16
/-!
# `try_from_le_bytes` by length

`Model.tryFromLeLen` (for slices given to the harness by their length only, `try_le_fill`) is the outcome of
`Model.tryFromLeBytes` with the bytes forgotten, and `Spec.judgeTryLe` looks at the slice only through its length and at
whether it was stored verbatim.
-/
namespace Decstr.Props.C16len
open Decstr.Spec Decstr.Model

theorem tryFromLeLen_eq (T : Ty) (bytes : List Nat) :
    tryFromLeLen T bytes.length = (tryFromLeBytes T bytes).map (fun _ => ()) := by
  unfold tryFromLeLen tryFromLeBytes
  simp only
  split
  · rfl
  · cases h : T.withAtLeastBytes bytes.length with
    | error e => rfl
    | ok buf =>
      simp only
      split <;> rfl

/-- **C16 / C17**: every `try_le_fill` request -/
theorem judgeTryLeLen_model (T : Ty) (hT : T = .dyn ∨ T = .big) (len : Nat) :
    (match tryFromLeLen T len with
     | .ok () => judgeTryLeLen T len (some (len, true)) none
     | .error e => judgeTryLeLen T len none (some (errFacts (.overflow e)))) = [] := by
  have hlen : (List.replicate len 0).length = len := List.length_replicate
  have he := tryFromLeLen_eq T (List.replicate len 0)
  have hacc := C16.C16_try_accepts T hT (List.replicate len 0)
  rw [hlen] at he hacc
  rw [he]
  cases hr : tryFromLeBytes T (List.replicate len 0) with
  | ok b =>
    simp only [Except.map, judgeTryLeLen.eq_def, hacc.1 ⟨b, hr⟩, List.append_eq_nil_iff, Proofs.chk_eq_nil, beq_self_eq_true,
      Bool.and_self, and_self]
  | error e =>
    have hnh : T.holds len = false := Bool.eq_false_iff.2 fun hh => by
      obtain ⟨b, hb⟩ := hacc.2 hh; rw [hr] at hb; cases hb
    simp only [Except.map, judgeTryLeLen.eq_def, hnh, Bool.not_false, Proofs.chk_true, List.nil_append]
    rcases C16.C17_len_error T hT _ e hr with ⟨h0, rfl⟩ | ⟨rfl, h20, h4, rfl⟩ <;> rw [hlen] at *
    · rw [if_pos (Bool.or_eq_true_iff.2 (h0.imp beq_iff_eq.2 bne_iff_ne.2))]
      rw [Proofs.chk_eq_nil]
      simp [errFacts]
    · rw [if_neg, if_pos trivial]
      · rw [Proofs.chk_eq_nil]
        simp [errFacts, Ty.capN]
      · rw [Bool.or_eq_true_iff, beq_iff_eq, bne_iff_ne]
        exact fun h => h.elim (Nat.ne_of_gt (Nat.lt_trans (by decide) h20)) fun h => h h4

end Decstr.Props.C16len
