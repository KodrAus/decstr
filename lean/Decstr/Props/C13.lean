import Decstr.Proofs.Decode
import Decstr.Proofs.ToFloat
import Decstr.Proofs.RneBounds
import Decstr.Proofs.Widths
/-!
# C13 — decimal → binary float is `None` or the correctly rounded value, never wrong

`toFloat b B` is the model of `to_f32`/`to_f64`/`TryFrom` (`decimal_to_binary_float`).  `str::parse::<f32|f64>` is
modelled as exact round-to-nearest-even (`Spec.rneDecSafe`) — an assumption of the trusted base that the
correspondence check compares against the real `str::parse` on every request.
-/
namespace Decstr.Props.C13
open Decstr.Model Decstr.Spec Decstr.Proofs

/-- **C13 (never wrong).** A `Some` for a finite decimal is the round-to-nearest-even float of its exact value,
    finite, with the decimal's sign (tiny values round to a subnormal or a zero of the same sign). -/
theorem C13_sound (b : Buf) (n : Nat) (h : WF b n) (B : BinFmt) (hB : B = binary32 ∨ B = binary64)
    (hfin : isFinite b = true) (bits : Nat) (hv : toFloat b B = some bits) :
    ∃ s c e m, decode ⟨n⟩ b.bits = .fin s c e ∧ rneDecSafe B c e = some m ∧ m < B.infBits ∧
      bits = (if s then B.signMask else 0) + m := by
  rw [toFloat_finite b B hfin] at hv
  obtain ⟨_, ha⟩ := allDigits_ascii h
  obtain ⟨m, h1, h2, h3⟩ := toFloatFinite_sound B hB _ _ ha _ bits hv
  exact ⟨_, _, _, m, decode_finite b n h hfin, h1, h2, h3⟩

theorem toFloat_of_decode {b : Buf} {n : Nat} (h : WF b n) (B : BinFmt) {s : Bool} {c : Nat} {e : Int}
    (hd : decode ⟨n⟩ b.bits = .fin s c e) :
    ∃ ds, AsciiDigits ds ∧ valOf ds = c ∧ toFloat b B = toFloatFinite B s ds e := by
  obtain ⟨hfin, h1, h2, h3⟩ := h.of_decode_fin hd
  exact ⟨_, (allDigits_ascii h).2, h2, by rw [toFloat_finite b B hfin, h1, h3]⟩

/-- **C13 (overflow).** `None` whenever the correctly rounded result would be infinite. -/
theorem C13_overflow (b : Buf) (n : Nat) (h : WF b n) (B : BinFmt) (hB : B = binary32 ∨ B = binary64)
    (s : Bool) (c : Nat) (e : Int) (hd : decode ⟨n⟩ b.bits = .fin s c e) (ho : rneDecSafe B c e = none) :
    toFloat b B = none := by
  obtain ⟨ds, ha, rfl, ht⟩ := toFloat_of_decode h B hd
  rw [ht]
  exact toFloatFinite_overflow B hB s ds ha e ho

/-- **C13 (specials).** Infinities map to the infinity of the same sign, NaNs to a NaN of the same sign. -/
theorem C13_infinity (b : Buf) (B : BinFmt) (hB : B = binary32 ∨ B = binary64) (hnf : isFinite b = false) (hi : isInfinite b = true) :
    ∃ bits, toFloat b B = some bits ∧ B.isInf bits = true ∧ (bits ≥ B.signMask ↔ isSignNegative b = true) := by
  obtain ⟨h1, h2, _⟩ := infinity_bits B (pos_of_std hB).1 (isSignNegative b)
  exact ⟨_, toFloat_infinite b B hnf hi, h1, h2⟩

theorem C13_nan (b : Buf) (B : BinFmt) (hB : B = binary32 ∨ B = binary64) (hnf : isFinite b = false) (hi : isInfinite b = false) :
    ∃ bits, toFloat b B = some bits ∧ B.isNan bits = true ∧ (bits ≥ B.signMask ↔ isSignNegative b = true) := by
  obtain ⟨h1, h2, _⟩ := toFloatNan_isNan B hB (isSignNegative b) (decodeDeclets b).flatten
  exact ⟨_, toFloat_nan b B hnf hi, h1, h2⟩

/-- **C13 (Some, fixed-capacity types).** At most 17 significant digits, a width of at most 160 bits and a finite
    rounding give `Some`. -/
theorem C13_some (b : Buf) (n : Nat) (h : WF b n) (hn : n ≤ 5) (B : BinFmt) (hB : B = binary32 ∨ B = binary64)
    (hfin : isFinite b = true)
    (hsig : ((allDigits b (unbiasedExponent b).2).dropWhile (· == 48)).length ≤ 17)
    (m : Nat) (hm : rneDecSafe B (valOf (allDigits b (unbiasedExponent b).2)) (unbiasedExponent b).1 = some m) :
    toFloat b B = some ((if isSignNegative b then B.signMask else 0) + m) := by
  rw [toFloat_finite b B hfin]
  obtain ⟨_, ha⟩ := allDigits_ascii h
  obtain ⟨h1, h2⟩ := finite_exponent_range h hfin
  have hp := h.pos
  -- `qmax` and `qmin` of the widest format with an `i32` exponent, 160 bits (`n = 5`); both within `-99999 … 999999`
  have hb := small_range n hp hn
  exact toFloatFinite_some_strong B hB _ _ ha _ hsig ⟨by omega, by omega⟩ m hm

/-- **C13 (Bitstring32::to_f64 is total).** Every finite 32-bit pattern converts to an `f64`, so the infallible
    `to_f64` cannot panic. -/
theorem C13_b32_total (b : Buf) (h : WF b 1) : ∃ bits, toFloat b binary64 = some bits := by
  by_cases hfin : isFinite b = true
  · rw [toFloat_finite b _ hfin]
    obtain ⟨hl, ha⟩ := allDigits_ascii h
    obtain ⟨h1, h2⟩ := finite_exponent_range h hfin
    exact toFloatFinite_b32_f64 _ _ ha hl _ ⟨by simpa [Fmt.qmin, Fmt.bias, Fmt.emax, Fmt.p] using h1,
      by simpa [Fmt.qmax, Fmt.emax, Fmt.p] using h2⟩
  · have hfin' : isFinite b = false := by simpa using hfin
    by_cases hi : isInfinite b = true
    · exact ⟨_, toFloat_infinite b _ hfin' hi⟩
    · exact ⟨_, toFloat_nan b _ hfin' (by simpa using hi)⟩

/-- non-vacuity: `1.5` at 32 bits is `0x3FF8000000000000` -/
example : toFloat (Buf.ofBytes [0x15, 0x00, 0x40, 0x22]) binary64 = some 0x3FF8000000000000 := by decide +kernel

end Decstr.Props.C13
