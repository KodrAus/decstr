import Decstr.Props.C06
/-!
# C04 — no rounding or clamping: a numeral is accepted iff it fits exactly;  C17 — overflow errors are truthful

Corollaries of `C06.C01_tryParseStr_finite` (which already says that an accepted numeral is encoded exactly).
-/
namespace Decstr.Props.C04
open Decstr.Model Decstr.Spec Decstr.Proofs

/-- **C04 (accepted iff it fits).** A bounded type accepts a grammatical finite numeral exactly when the smallest
    sufficient width for its written digit count and its exponent (after subtracting the fractional digits) is within
    the type's capacity — for exponents at and beyond the 32-bit limits too. -/
theorem C04_accept_iff (T : Ty) (cap : Nat) (hcap : T.capN = some cap) (txt : List Nat) (s : Bool) (i fr : List Nat)
    (ex : Option (Bool × List Nat)) (hp : Spec.parse txt = some (.finite s i fr ex)) :
    (∃ b, tryParseStr T txt = .ok b) ↔ need (i.length + fr.length) (some (expValue ex - fr.length)) ≤ cap := by
  have hout := C06.C01_tryParseStr_finite T txt s i fr ex hp
  have hc5 := (Ty.capN_bounds hcap).2
  constructor
  · rintro ⟨b, hb⟩
    rw [hb] at hout
    obtain ⟨_, n, hn, _, hfit, _, _, hcn, _⟩ := hout.ok
    exact Nat.le_trans ((need_le_iff _ _ n hn).2 hfit) (hcn cap hcap)
  · intro hle
    -- the numeral fits 160 bits, so its written exponent is inside the i32 range
    have hin := inI32_of_need_le (x := expValue ex) (Nat.le_add_left fr.length i.length)
      (Nat.le_trans hle (Nat.le_trans hc5 (by decide)))
    cases hr : tryParseStr T txt with
    | ok b => exact ⟨b, rfl⟩
    | error e =>
      rw [hr] at hout
      rcases hout.error with ⟨hx, _⟩ | ⟨_, cap', n, _, hc', hlt, _⟩
      · rw [hin] at hx; simp at hx
      · rw [hcap] at hc'; injection hc' with hc'; omega

/-- **C04 (what the property asks, acceptance).** Accepted whenever the written digit count is at most `p` and the
    exponent lies in `[−bias, emax − p + 1]` of the type's (largest) width. -/
theorem C04_accept (T : Ty) (cap : Nat) (hcap : T.capN = some cap) (txt : List Nat) (s : Bool) (i fr : List Nat)
    (ex : Option (Bool × List Nat)) (hp : Spec.parse txt = some (.finite s i fr ex))
    (hd : i.length + fr.length ≤ (Fmt.mk cap).p)
    (hq : (Fmt.mk cap).qmin ≤ expValue ex - fr.length ∧ expValue ex - fr.length ≤ (Fmt.mk cap).qmax) :
    ∃ b, tryParseStr T txt = .ok b := by
  have hcp := (Ty.capN_bounds hcap).1
  rw [C04_accept_iff T cap hcap txt s i fr ex hp, need_le_iff _ _ cap hcp]
  exact (fitsB_iff _ _ _).2 ⟨hd, hq⟩

/-- **C04 (what the property asks, rejection).** Rejected whenever it would not fit even with redundant leading zeros
    removed (`sd ≤ d` significant digits). -/
theorem C04_reject (T : Ty) (cap : Nat) (hcap : T.capN = some cap) (txt : List Nat) (s : Bool) (i fr : List Nat)
    (ex : Option (Bool × List Nat)) (hp : Spec.parse txt = some (.finite s i fr ex))
    (sd : Nat) (hsd : sd ≤ i.length + fr.length) (hno : cap < need sd (some (expValue ex - fr.length))) :
    ∃ e, tryParseStr T txt = .error e := by
  have hmono := need_mono_digits sd (i.length + fr.length) (some (expValue ex - fr.length)) hsd
  cases hr : tryParseStr T txt with
  | error e => exact ⟨e, rfl⟩
  | ok b =>
    have := (C04_accept_iff T cap hcap txt s i fr ex hp).1 ⟨b, hr⟩
    omega

/-- **C04 / C07 (`BigBitstring` accepts every grammatical finite numeral).** -/
theorem C04_big_total (txt : List Nat) (s : Bool) (i fr : List Nat) (ex : Option (Bool × List Nat))
    (hp : Spec.parse txt = some (.finite s i fr ex)) : ∃ b, tryParseStr .big txt = .ok b := by
  have hout := C06.C01_tryParseStr_finite .big txt s i fr ex hp
  cases hr : tryParseStr .big txt with
  | ok b => exact ⟨b, rfl⟩
  | error e =>
    rw [hr] at hout
    rcases hout.error with ⟨hx, _⟩ | ⟨_, cap, _, _, hc, _⟩
    · cases hx
    · cases hc

/-- **C17 (overflow errors are truthful).** When a bounded type rejects a grammatical finite numeral, the error is
    either the exponent overflow without a width (exactly when the written exponent does not fit an `i32`) or names the
    type's capacity and a needed width that is strictly larger, a multiple of 4 bytes, and genuinely sufficient. -/
theorem C17_overflow (T : Ty) (txt : List Nat) (s : Bool) (i fr : List Nat) (ex : Option (Bool × List Nat))
    (hp : Spec.parse txt = some (.finite s i fr ex)) (e : Err) (he : tryParseStr T txt = .error e) :
    (T.expIsI32 = true ∧ inI32 (expValue ex) = false ∧ e = .overflow (.exponentOutOfRange 4)) ∨
    (inI32 (expValue ex) = true ∧ ∃ cap n, T.capN = some cap ∧ e = .overflow (.wouldOverflow (4 * cap) (4 * n)) ∧ cap < n ∧
      (Fmt.mk n).fitsB (i.length + fr.length) (some (expValue ex - fr.length)) = true) := by
  have hout := C06.C01_tryParseStr_finite T txt s i fr ex hp
  rw [he] at hout
  rcases hout.error with ⟨hx, rfl⟩ | ⟨hx, cap, n, rfl, hc, _, hcn, hf⟩
  · rw [Bool.and_eq_true, Bool.not_eq_true'] at hx
    exact Or.inl ⟨hx.1, hx.2, rfl⟩
  · rw [Ty.expIsI32_of_capN hc, Bool.true_and, Bool.not_eq_false'] at hx
    exact Or.inr ⟨hx, cap, n, hc, rfl, hcn, hf⟩

end Decstr.Props.C04
