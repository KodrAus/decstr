import Decstr.Proofs.Decode
import Decstr.Proofs.ToInt
import Decstr.Proofs.Widths
/-!
# C11 — decimal → integer never lies and finds every in-range integer value

`toInt T b I` is the model of `to_<int>` / `TryFrom` (`decimal_to_int`).  Widths are `n < 2^27` words: the precision
`9n − 2` is then below `2^31` (an exponent beyond `i32` is only sound to refuse with fewer than `2^31` digits).
-/
namespace Decstr.Props.C11
open Decstr.Model Decstr.Spec Decstr.Proofs

/-- **C11 (characterisation).** For a finite pattern the answer is exactly `exactInt` of the decoded
    (sign, coefficient, exponent): the exact value when it is an integer inside the target's range. -/
theorem C11_eq (T : Ty) (b : Buf) (n : Nat) (h : WF b n) (hn : n < 2 ^ 27) (I : IntTy) (hI : I.bits ≤ 128)
    (hfin : isFinite b = true) :
    ∃ s c e, decode ⟨n⟩ b.bits = .fin s c e ∧ toInt T b I = exactInt I s c e := by
  obtain ⟨hl, ha⟩ := allDigits_ascii h
  refine ⟨_, _, _, decode_finite b n h hfin, ?_⟩
  unfold toInt
  simp only [hfin]
  rw [Buf.precision_of_len h.len, ← hl]
  exact toIntCore_eq' T I _ _ _ ha hI (by rw [hl]; omega)

set_option linter.unusedVariables false in
/-- **C11 (specials).** NaNs and infinities never convert: the finite path reads a leading digit 8 or 9 and an exponent
    above `qmax ≥ 90` (`hn` is not needed). -/
theorem C11_specials (T : Ty) (b : Buf) (n : Nat) (h : WF b n) (hn : n < 2 ^ 27) (I : IntTy) (hI : I.bits ≤ 128)
    (hnf : isFinite b = false) : toInt T b I = none := by
  obtain ⟨h8, he⟩ := nonfinite_through_finite_path h hnf
  have hq := qmax_ge_90 n h.pos
  unfold toInt
  simp only [hnf]
  exact toIntCore_nonfinite' T I _ _ _ _ hI ⟨_, _, rfl, by omega⟩ (by omega)

/-- **C11 (never lies).** `Some i` only if the decimal is finite and its exact value `(−1)^s · c · 10^e` equals `i`,
    which then lies in the target's range. -/
theorem C11_sound (T : Ty) (b : Buf) (n : Nat) (h : WF b n) (hn : n < 2 ^ 27) (I : IntTy) (hI : I.bits ≤ 128) (v : Int)
    (hv : toInt T b I = some v) :
    ∃ s c e, decode ⟨n⟩ b.bits = .fin s c e ∧ IsValue s c e v ∧ I.contains v = true := by
  cases hfin : isFinite b
  · rw [C11_specials T b n h hn I hI hfin] at hv
    cases hv
  · obtain ⟨s, c, e, hd, he⟩ := C11_eq T b n h hn I hI hfin
    rw [he, exactInt_eq_some_iff] at hv
    exact ⟨s, c, e, hd, hv.1, hv.2.1⟩

/-- **C11 (finds every in-range integer).** Whatever cohort member encodes it (17e1, 170e-1, zero with any exponent); the
    only excluded case is a negative sign into an unsigned target (the property leaves negative zero unspecified). -/
theorem C11_complete (T : Ty) (b : Buf) (n : Nat) (h : WF b n) (hn : n < 2 ^ 27) (I : IntTy) (hI : I.bits ≤ 128)
    (s : Bool) (c : Nat) (e : Int) (hd : decode ⟨n⟩ b.bits = .fin s c e) (v : Int)
    (hv : IsValue s c e v) (hr : I.contains v = true) (hs : ¬ (s = true ∧ I.signed = false)) :
    toInt T b I = some v := by
  have hfin : isFinite b = true := (h.of_decode_fin hd).1
  obtain ⟨s', c', e', hd', he⟩ := C11_eq T b n h hn I hI hfin
  rw [hd] at hd'
  injection hd' with h1 h2 h3
  subst h1 h2 h3
  rw [he, exactInt_eq_some_iff]
  exact ⟨hv, hr, hs⟩

/-- non-vacuity: `170e-1` at 32 bits is 17 -/
example : toInt .b32 (Buf.ofBytes [0xF0, 0x00, 0x40, 0x22]) ⟨true, 8⟩ = some 17 := by decide +kernel

end Decstr.Props.C11
